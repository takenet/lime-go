import LimeModel.Generated
/-!
# M5: the end of a session seen from the client that asks for it
(client_channel.go `FinishSession` / `receiveSessionFromServer`, channel.go `receiveSession`,
`receiveFromTransport`, `setState` / `stopReceiver`)

Two goroutines share the channel: the caller of `FinishSession` (send `finishing`; read the state;
wait on the session stream, or - in a terminal state - take what is pending there; adopt the
state; stop the receiver; close the transport) and the receiver goroutine (take the server's
`finished` reply from the transport; push it to the session stream; adopt its state; exit, closing
the inbound streams and the done signal). Every labelled step is atomic, the scheduler arbitrary.
`fixed = false` is the tree before the repair: a caller that read `finished` gave up.
-/
namespace LimeModel.Finish

inductive RPC | running | pushed | exited
  deriving DecidableEq, Repr

inductive CPC | idle | sent | readEst | readTerm | got | adopted | stopped | closed | failed
  deriving DecidableEq, Repr

structure FS where
  rpc : RPC := .running
  cpc : CPC := .idle
  finished : Bool := false      -- the channel state is `finished` (otherwise `established`)
  wire : Bool := false          -- the server's `finished` reply is on the transport
  inSes : Bool := false         -- ... is in the session stream (buffer of one)
  inSesClosed : Bool := false   -- the session stream (with the other inbound streams) is closed
  cancelReq : Bool := false     -- `stopReceiver` cancelled the receiver's context
  tclosed : Bool := false       -- the client's transport is closed
  closes : Nat := 0             -- how many times the inbound streams were closed
  deriving DecidableEq, Repr

inductive Lbl
  | callerSend | callerRead | callerWait | callerTerminal | callerAdopt | callerStop | callerClose
  | rcvTake | rcvAdopt | rcvCancelled
  deriving DecidableEq, Repr

def step (fixed : Bool) (s : FS) : Lbl → Option FS
  | .callerSend => if s.cpc = .idle ∧ !s.finished then some { s with cpc := .sent, wire := true } else none
  | .callerRead =>
    if s.cpc = .sent then some { s with cpc := if s.finished then .readTerm else .readEst } else none
  | .callerWait =>
    if s.cpc = .readEst then
      if s.inSes then some { s with cpc := .got, inSes := false }
      else if s.inSesClosed then some { s with cpc := .failed }   -- "channel closed"
      else none                                                    -- blocked
    else none
  | .callerTerminal =>
    if s.cpc = .readTerm then
      if fixed ∧ s.inSes then some { s with cpc := .got, inSes := false }
      else some { s with cpc := .failed }                          -- "cannot do in the finished state"
    else none
  | .callerAdopt => if s.cpc = .got then some { s with cpc := .adopted, finished := true } else none
  | .callerStop =>
    if s.cpc = .adopted then
      if s.rpc = .exited then some { s with cpc := .stopped }
      else if !s.cancelReq then some { s with cancelReq := true }
      else none                                                    -- waiting for the done signal
    else none
  | .callerClose => if s.cpc = .stopped then some { s with cpc := .closed, tclosed := true } else none
  | .rcvTake =>
    if s.rpc = .running ∧ s.wire ∧ !s.finished ∧ !s.tclosed ∧ !s.cancelReq then
      some { s with rpc := .pushed, wire := false, inSes := true }
    else none
  | .rcvAdopt =>
    if s.rpc = .pushed then
      some { s with rpc := .exited, finished := true, inSesClosed := true, closes := s.closes + 1 }
    else none
  | .rcvCancelled =>
    if s.rpc = .running ∧ s.cancelReq then
      some { s with rpc := .exited, inSesClosed := true, closes := s.closes + 1 }
    else none

def runL (fixed : Bool) : FS → List Lbl → Option FS
  | s, [] => some s
  | s, l :: ls => match step fixed s l with | some s' => runL fixed s' ls | none => none

def allLabels : List Lbl :=
  [.callerSend, .callerRead, .callerWait, .callerTerminal, .callerAdopt, .callerStop, .callerClose,
   .rcvTake, .rcvAdopt, .rcvCancelled]

/-- no step is enabled -/
def stuck (fixed : Bool) (s : FS) : Bool := allLabels.all fun l => (step fixed s l).isNone

/-- which variant the code is, read from the source on this run: `receiveSession` takes a pending
session envelope in the terminal states -/
def repaired : Bool := Generated.finishDrainsTerminalState

end LimeModel.Finish
