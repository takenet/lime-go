import LimeModel.Generated
/-!
# M5: server start / stop (server.go `ListenAndServe`, `acceptTransports`, `consumeTransports`,
`handleChannel`, `Close`)

Goroutine-level model: the caller of `ListenAndServe` (publish the cancel function; start the
listeners one by one, spawning an acceptor for each; spawn the consumer; wait for the group; return),
one acceptor per listener (`Accept`, then a `select` between the cancelled context and the hand-over
to the queue), the consumer, `Close` (cancel the context, then close the listeners one by one), and
the sessions the consumer spawns (handshake, `Established` callback, service, `Finished` callback).
Every labelled step is atomic; the scheduler is arbitrary. `fixed = true` is the code as it is;
`fixed = false` the tree before the repairs (the return value was the first error any acceptor
reported; listeners started after an early `Close` stayed open).
-/
namespace LimeModel.ServerLife

inductive AccPC
  | notSpawned
  | accepting
  | holding                 -- `Accept` returned a transport; in the `select`
  | exited (ctxErr : Bool)  -- returned the context's error (`true`) or the listener's (`false`)
  deriving DecidableEq, Repr

inductive Lst | notStarted | listening | closed
  deriving DecidableEq, Repr

inductive ConsPC | notSpawned | running | exited
  deriving DecidableEq, Repr

inductive SesPC | none | handshaking | established | finished | released
  deriving DecidableEq, Repr

inductive Ret | serverClosed | listenerErr
  deriving DecidableEq, Repr

inductive Ev | est (i : Nat) | fin (i : Nat) | handler (i : Nat)
  deriving DecidableEq, Repr

structure St where
  n : Nat                          -- number of listeners
  backlog : Nat
  published : Bool := false        -- `srv.shutdown` is set
  cancelled : Bool := false        -- `Close` cancelled the server context
  closeAt : Nat := 0               -- listeners `Close` has been through
  groupCancelled : Bool := false   -- the errgroup's context was cancelled by a failing goroutine
  firstErr : Option Bool := none   -- the first error reported to the group (`true` = a context error)
  lst : Nat → Lst := fun _ => .notStarted
  started : Nat := 0               -- listeners `ListenAndServe` has started
  acc : Nat → AccPC := fun _ => .notSpawned
  cons : ConsPC := .notSpawned
  queue : Nat := 0
  nses : Nat := 0                  -- sessions spawned so far
  ses : Nat → SesPC := fun _ => .none
  returned : Option Ret := none
  trace : List Ev := []            -- callbacks and handler runs, newest first

inductive Lbl
  | publish | startListener | spawnConsumer | ret
  | connect (i : Nat) | push (i : Nat) | accExitCtx (i : Nat) | accExitLst (i : Nat)
  | take | consumerExit
  | closeCancel | closeLst
  | hsOk (j : Nat) | hsFail (j : Nat) | handle (j : Nat) | finish (j : Nat)
  deriving Repr

def upd {α} (f : Nat → α) (k : Nat) (v : α) : Nat → α := fun x => if x = k then v else f x

/-- the errgroup keeps the first error reported to it -/
def keepFirst : Option Bool → Bool → Option Bool
  | none, b => some b
  | some x, _ => some x

def St.ctxDone (s : St) : Bool := s.cancelled || s.groupCancelled

def allAccExited (s : St) : Bool := (List.range s.n).all fun i => match s.acc i with | .exited _ => true | _ => false

def closeListeners (s : St) : Nat → Lst := fun i => if i < s.n ∧ s.lst i = .listening then .closed else s.lst i

def step (fixed : Bool) (s : St) : Lbl → Option St
  | .publish => if !s.published then some { s with published := true } else none
  | .startListener =>
    if s.published ∧ s.started < s.n ∧ s.returned = none then
      some { s with lst := upd s.lst s.started .listening, acc := upd s.acc s.started .accepting, started := s.started + 1 }
    else none
  | .spawnConsumer =>
    if s.published ∧ s.started = s.n ∧ s.cons = .notSpawned then some { s with cons := .running } else none
  | .connect i =>
    if i < s.n ∧ s.lst i = .listening ∧ s.acc i = .accepting then some { s with acc := upd s.acc i .holding } else none
  | .push i =>
    if i < s.n ∧ s.acc i = .holding ∧ s.queue < s.backlog + 1 then
      some { s with acc := upd s.acc i .accepting, queue := s.queue + 1 }
    else none
  | .accExitCtx i =>
    if i < s.n ∧ (s.acc i = .accepting ∨ s.acc i = .holding) ∧ s.ctxDone then
      some { s with acc := upd s.acc i (.exited true), groupCancelled := true, firstErr := keepFirst s.firstErr true }
    else none
  | .accExitLst i =>
    if i < s.n ∧ s.acc i = .accepting ∧ s.lst i = .closed then
      some { s with acc := upd s.acc i (.exited false), groupCancelled := true, firstErr := keepFirst s.firstErr false }
    else none
  | .take =>
    if s.cons = .running ∧ 0 < s.queue then
      some { s with queue := s.queue - 1, ses := upd s.ses s.nses .handshaking, nses := s.nses + 1 }
    else none
  | .consumerExit => if s.cons = .running ∧ s.ctxDone then some { s with cons := .exited } else none
  | .closeCancel => if s.published ∧ !s.cancelled then some { s with cancelled := true } else none
  | .closeLst =>
    if s.cancelled ∧ s.closeAt < s.n then
      some { s with lst := upd s.lst s.closeAt (if s.lst s.closeAt = .listening then .closed else s.lst s.closeAt),
                    closeAt := s.closeAt + 1 }
    else none
  | .ret =>
    if s.started = s.n ∧ s.cons = .exited ∧ allAccExited s ∧ s.returned = none then
      if fixed then
        if s.cancelled then some { s with returned := some .serverClosed, lst := closeListeners s }
        else some { s with returned := some (if s.firstErr = some true then .serverClosed else .listenerErr) }
      else some { s with returned := some (if s.firstErr = some true then .serverClosed else .listenerErr) }
    else none
  | .hsOk j =>
    if s.ses j = .handshaking then some { s with ses := upd s.ses j .established, trace := .est j :: s.trace } else none
  | .hsFail j => if s.ses j = .handshaking then some { s with ses := upd s.ses j .released } else none
  | .handle j => if s.ses j = .established then some { s with trace := .handler j :: s.trace } else none
  | .finish j =>
    if s.ses j = .established then some { s with ses := upd s.ses j .finished, trace := .fin j :: s.trace } else none

def runL (fixed : Bool) : St → List Lbl → Option St
  | s, [] => some s
  | s, l :: ls => match step fixed s l with | some s' => runL fixed s' ls | none => none

def init (n backlog : Nat) : St := { n, backlog }

/-- the callback discipline on a newest-first log: `Established` at most once per session and before
everything else of that session; `Finished` at most once, after `Established`, nothing after it -/
def pairedRev : List Ev → Bool
  | [] => true
  | .est i :: t => !t.contains (.est i) && !t.contains (.fin i) && !t.contains (.handler i) && pairedRev t
  | .fin i :: t => t.contains (.est i) && !t.contains (.fin i) && pairedRev t
  | .handler i :: t => t.contains (.est i) && !t.contains (.fin i) && pairedRev t

/-- at the end: every session that was announced as established was also announced as finished -/
def allFinished (tr : List Ev) : Bool :=
  tr.all fun e => match e with | .est i => tr.contains (.fin i) | _ => true

/-- which variant the code is, read from the source on this run: `ListenAndServe` decides on the
server's own context whether it was closed (`harness/cmd/facts/structure.go`) -/
def repaired : Bool := Generated.serveReturnsClosedAfterClose

end LimeModel.ServerLife
