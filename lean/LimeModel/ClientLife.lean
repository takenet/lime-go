import LimeModel.Generated
/-!
# M5: the high-level client and the unrequested loss of its session
(client.go `getOrBuildChannel` / listener goroutine, channel.go `receiveFromTransport`, `Established`)

The client decides whether to reuse its channel by `channelOK` = the channel is in the established
state on a transport that reports connected. The listener goroutine loops over: get (or rebuild) the
channel; `ListenClient`, which returns at once when the channel's receiver goroutine has exited.
A fault ends the receiver; what it does to the state and to the transport depends on its kind.
`fixed = false` is the tree before the repair: a receive error other than EOF (undecodable bytes,
JSON that is no envelope, an oversized envelope) left the transport looking connected.
-/
namespace LimeModel.ClientLife

inductive Fault | srvFinish | srvFail | drop | halfClose | garbage | notEnvelope | oversize | oddSession
  deriving DecidableEq, Repr

structure CL where
  established : Bool := true
  connected : Bool := true
  receiverAlive : Bool := true
  sessions : Nat := 1         -- sessions established so far
  deriving DecidableEq, Repr

def CL.channelOK (s : CL) : Bool := s.established && s.connected

/-- which of the two repairs of the receiver the code has: it closes the transport on a receive
error (`onError`), and on a session envelope that leaves the client established (`onOdd`) -/
structure Fix where
  onError : Bool
  onOdd : Bool
  deriving DecidableEq, Repr

def Fix.all : Fix := ⟨true, true⟩
def Fix.none : Fix := ⟨false, false⟩
@[simp] theorem Fix.all_onError : Fix.all.onError = true := rfl
@[simp] theorem Fix.all_onOdd : Fix.all.onOdd = true := rfl
@[simp] theorem Fix.none_onError : Fix.none.onError = false := rfl
@[simp] theorem Fix.none_onOdd : Fix.none.onOdd = false := rfl

/-- what a fault does to the client's channel -/
def fault (fixed : Fix) (s : CL) : Fault → CL
  | .srvFinish | .srvFail =>            -- the receiver hands the session envelope over and adopts its state
    { s with established := false, receiverAlive := false }
  | .drop | .halfClose =>               -- the receiver reads EOF: the transport marks itself disconnected
    { s with connected := false, receiverAlive := false }
  | .garbage | .notEnvelope | .oversize =>   -- the receiver gets another error
    if fixed.onError then { s with connected := false, receiverAlive := false }   -- and closes the transport
    else { s with receiverAlive := false }
  | .oddSession =>          -- a session envelope that ends nothing: the receiver hands it over and stops
    if fixed.onOdd then { s with connected := false, receiverAlive := false }   -- ... closing the transport
    else { s with receiverAlive := false }

/-- `getOrBuildChannel` (the server is reachable): reuse, or build a fresh established channel -/
def getOrBuild (s : CL) : CL :=
  if s.channelOK then s else { established := true, connected := true, receiverAlive := true, sessions := s.sessions + 1 }

/-- one iteration of the listener goroutine: `true` = it blocked in `ListenClient` (a live receiver),
`false` = `ListenClient` returned at once -/
def listenerIter (s : CL) : Bool × CL :=
  let s1 := getOrBuild s
  (s1.receiverAlive, s1)

/-- the client is deaf and its listener spins: a channel that looks fine without a receiver -/
def CL.wedged (s : CL) : Bool := s.channelOK && !s.receiverAlive

inductive Op | fault (f : Fault) | send | listen
  deriving DecidableEq, Repr

def step (fixed : Fix) (s : CL) : Op → CL
  | .fault f => fault fixed s f
  | .send => getOrBuild s
  | .listen => (listenerIter s).2

def run (fixed : Fix) (ops : List Op) : CL := ops.foldl (step fixed) {}

/-- which variant the code is, read from the source on this run: the receiver closes the transport
on a receive error and on a session envelope that leaves the client established -/
def repaired : Fix := ⟨Generated.receiverClosesOnError, Generated.receiverClosesOnOddSession⟩

end LimeModel.ClientLife
