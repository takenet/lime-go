import LimeModel.ServerHs
/-!
# M2 (client): `ClientChannel.EstablishSession` and its helpers (client_channel.go, channel.go)

The environment is explicit: what the server sends (script), what the selector and authenticator
callbacks return, which sends fail, whether `SetEncryption` / `SetCompression` succeed.
Traces are newest-first. A panic of the Go code is an explicit outcome.
-/
namespace LimeModel.ClientHs
open LimeModel LimeModel.ServerHs

inductive Ev
  | recv (r : Recv)                              -- the transport delivered this
  | emit (s : Ses) (enc : Opt)                   -- envelope written, with the client's encryption in force
  | selCall (compOpts encOpts : List Opt)        -- the two selectors were consulted
  | authCall (schemes : List Scheme) (roundTrip : Option Auth)  -- the authenticator was consulted
  | setState (s : SState)
  | setEnc (e : Opt) (ok : Bool)
  | setComp (c : Opt) (ok : Bool)
  | close
  | confirmed (comp enc : Opt)   -- ghost: the server's reply to the selection was a confirmation
  deriving Repr

structure Cfg where
  identity : Identity
  inst : Str
  compSel : List Opt → Opt          -- `CompressionSelector`
  encSel : List Opt → Opt           -- `EncryptionSelector`
  eofDisconnects : Bool := true

structure St where
  state : SState := .new
  connected : Bool := true
  enc : Opt := cs!"none"
  comp : Opt := cs!"none"
  sid : Str := []
  localNode : Node := Node.zero
  remoteNode : Node := Node.zero
  recvs : List Recv
  auths : List Auth            -- what the authenticator returns, call by call (exhausted: guest)
  sendOk : List Bool
  setEncOk : Bool := true
  trace : List Ev := []

/-- how a call ends -/
inductive Res
  | ok (s : Ses)      -- returns the session envelope
  | err               -- returns an error
  | panic             -- the Go code panics (on the calling or on the receiver goroutine)
  deriving Repr, DecidableEq

def St.log (s : St) (e : Ev) : St := { s with trace := e :: s.trace }

def markEof (c : Cfg) (s : St) : St := if c.eofDisconnects then { s with connected := false } else s

/-- `channel.sendSession` -/
def sendSession (s : St) (e : Ses) : Bool × St :=
  if !s.connected then (false, s)
  else if s.state = .finished ∨ s.state = .failed then (false, s)
  else match s.sendOk with
    | [] => (true, s.log (.emit e s.enc))
    | true :: r => (true, ({ s with sendOk := r }).log (.emit e s.enc))
    | false :: r => (false, { s with sendOk := r })

/-- what the transport hands over next; `none` = the script is exhausted (the peer went away) -/
def nextItem (c : Cfg) (s : St) : Option Recv × St :=
  match s.recvs with
  | [] => (none, markEof c s)
  | .fail true :: r => (some (.fail true), markEof c (({ s with recvs := r }).log (.recv (.fail true))))
  | .sesGone y :: r =>   -- the envelope arrives, and the transport already reports not connected
    (some (.ses y), ({ s with recvs := r, connected := false }).log (.recv (.ses y)))
  | x :: r => (some x, ({ s with recvs := r }).log (.recv x))

/-- `setStateWLock`'s guard: a state earlier (in `Step` order) than the current one is refused -/
def stateAccepted (s : St) (x : SState) : Bool := decide (s.state.step ≤ x.step)

/-- what the refusal is: an error return (before the repair `setStateWLock` panicked: `true`) -/
def regressPanics : Bool := false

/-- result of a receive step -/
inductive RecvRes
  | got (x : Ses)
  | err
  | panic
  deriving Repr, DecidableEq

def setState (s : St) (x : SState) : St := ({ s with state := x }).log (.setState x)

/-- the receiver stops at any session envelope; if that envelope did not end the session the channel
must not go on looking established: the transport is closed -/
def stopsEstablished (s : St) : St := if s.state = .established then { s with connected := false } else s

/-- the receiver goroutine's part of `receiveSession` once the channel is established: envelopes
of other kinds go to the application streams, the first session envelope is handed over and, on
the client, its state adopted through `setStateWLock`; a transport error ends the receiver
("channel closed"). `fuel` bounds the number of skipped data envelopes by the script length. -/
def recvViaReceiver (c : Cfg) : Nat → St → RecvRes × St
  | 0, s => (.err, s)
  | fuel + 1, s =>
    let q := nextItem c s
    match q.1 with
    | none => (.err, q.2)
    | some (.ses x) =>
      if stateAccepted q.2 x.state then (.got x, stopsEstablished (setState q.2 x.state))
      else if regressPanics then (.panic, q.2)       -- on the receiver goroutine
      else (.got x, stopsEstablished q.2)
    | some .other => recvViaReceiver c fuel q.2
    | some (.fail _) => (.err, { q.2 with connected := false })   -- the receiver gives up and closes the transport
    | some (.sesGone _) => (.err, q.2)             -- not produced by `nextItem`

/-- `channel.receiveSession` -/
def receiveSession (c : Cfg) (s : St) : RecvRes × St :=
  if s.state = .finished then (.err, s)
  else if s.state = .established then recvViaReceiver c (s.recvs.length + 1) s
  else if !s.connected then (.err, s)
  else
    let q := nextItem c s
    match q.1 with
    | some (.ses x) => (.got x, q.2)
    | _ => (.err, q.2)

def closeT (s : St) : St := ({ s with connected := false }).log .close

/-- adopting a server session: nodes (when established), session id, state -/
def adopt (s : St) (ses : Ses) : St :=
  if ses.state = .established then
    setState { s with localNode := ses.to, remoteNode := ses.from_, sid := ses.id } ses.state
  else setState { s with sid := ses.id } ses.state

/-- a `finished` / `failed` session makes the client close its transport (closing an already
closed transport is an error) -/
def finishRecv (s : St) (ses : Ses) : RecvRes × St :=
  if ses.state = .finished ∨ ses.state = .failed then
    (if s.connected then (.got ses, closeT s) else (.err, s))
  else (.got ses, s)

/-- the refusal of a regressing state -/
def refuse (s : St) : RecvRes × St := if regressPanics then (.panic, s) else (.err, s)

/-- `receiveSessionFromServer` -/
def recvFromServer (c : Cfg) (s : St) : RecvRes × St :=
  let q := receiveSession c s
  match q.1 with
  | .err => (.err, q.2)
  | .panic => (.panic, q.2)
  | .got ses =>
    if !stateAccepted q.2 ses.state then refuse q.2
    else finishRecv (adopt q.2 ses) ses

/-- the authentication loop `for ses.State == SessionStateAuthenticating` -/
def authLoop (c : Cfg) : Nat → St → Ses → Option Auth → Res × St
  | 0, s, _, _ => (.err, s)
  | fuel + 1, s, ses, roundTrip =>
    if ses.state ≠ .authenticating then (.ok ses, s) else
    let a := s.auths.headD .guest
    let s := ({ s with auths := s.auths.tail }).log (.authCall ses.schemeOpts roundTrip)
    -- authenticateSession: ensureState(authenticating)
    if !s.connected ∨ s.state ≠ .authenticating then (.err, s) else
    let r := sendSession s { id := s.sid, from_ := ⟨c.identity.name, c.identity.domain, c.inst⟩,
                             state := .authenticating, scheme := a.scheme, auth := some a }
    if !r.1 then (.err, r.2) else
    let q := recvFromServer c r.2
    match q.1 with
    | .err => (.err, q.2)
    | .panic => (.panic, q.2)
    | .got ses' => authLoop c fuel q.2 ses' ses'.auth

def applyEnc (s : St) (e : Opt) : Bool × St :=
  if e ≠ [] ∧ e ≠ s.enc then
    if s.setEncOk then (true, ({ s with enc := e }).log (.setEnc e true))
    else (false, s.log (.setEnc e false))
  else (true, s)

def applyComp (s : St) (x : Opt) : Bool × St :=
  if x ≠ [] ∧ x ≠ s.comp then (false, s.log (.setComp x false)) else (true, s)

/-- after the reply to the selection: a `negotiating` reply is a confirmation whose options are
applied to the transport -/
def applyConfirmed (s : St) (conf : Ses) : Bool × St :=
  if conf.state = .negotiating then
    let s := s.log (.confirmed conf.comp conf.enc)
    let a := applyComp s conf.comp
    if !a.1 then (false, a.2) else applyEnc a.2 conf.enc
  else (true, s)

/-- the `if ses.State == SessionStateNegotiating { … }` block; returns the envelope to continue with -/
def negotiateBlock (c : Cfg) (s : St) (ses : Ses) : RecvRes × St :=
  let s := s.log (.selCall ses.compOpts ses.encOpts)
  -- negotiateSession: ensureState(negotiating)
  if !s.connected ∨ s.state ≠ .negotiating then (.err, s) else
  let r := sendSession s { id := s.sid, state := .negotiating, comp := c.compSel ses.compOpts, enc := c.encSel ses.encOpts }
  if !r.1 then (.err, r.2) else
  let q := recvFromServer c r.2
  match q.1 with
  | .err => (.err, q.2)
  | .panic => (.panic, q.2)
  | .got conf =>
    let r2 := applyConfirmed q.2 conf
    if !r2.1 then (.err, r2.2) else
    -- "await for authentication options"
    recvFromServer c r2.2

/-- `EstablishSession` on a fresh client channel -/
def establish (c : Cfg) (s : St) : Res × St :=
  -- startNewSession: ensureState(new)
  if !s.connected ∨ s.state ≠ .new then (.err, s) else
  let r := sendSession s { state := .new }
  if !r.1 then (.err, r.2) else
  let q := recvFromServer c r.2
  match q.1 with
  | .err => (.err, q.2)
  | .panic => (.panic, q.2)
  | .got ses =>
    let n := if ses.state = .negotiating then negotiateBlock c q.2 ses else (.got ses, q.2)
    match n.1 with
    | .err => (.err, n.2)
    | .panic => (.panic, n.2)
    | .got ses2 => authLoop c (n.2.recvs.length + 2) n.2 ses2 none

structure Result where
  trace : List Ev
  res : Res
  final : St

def run (c : Cfg) (recvs : List Recv) (auths : List Auth) (sendOk : List Bool) (setEncOk : Bool)
    (enc0 : Opt := cs!"none") : Result :=
  let r := establish c { recvs, auths, sendOk, setEncOk, enc := enc0 }
  { trace := r.2.trace.reverse, res := r.1, final := r.2 }

end LimeModel.ClientHs
