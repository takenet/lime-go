/-!
# M4: delivery on an established channel (channel.go, transports)

Sender goroutines with programs → the send mutex (one whole envelope at a time reaches the wire) →
the transport FIFO → the single receiver goroutine (`pop`, then a possibly blocking `push`) → four
bounded per-kind inbound streams (capacity `cap ≥ 0`; an unbuffered Go channel hands over only when
a consumer is ready, which the model over-approximates by one extra slot) → consumers (handlers,
stream readers) of arbitrary speed. One labelled step per action; the scheduler is arbitrary.
-/
namespace LimeModel.Chan

structure Env where
  kind : Nat
  sender : Nat
  seq : Nat
  deriving DecidableEq, Repr

structure CS where
  prog : Nat → List Env          -- remaining program of sender goroutine i
  wire : List Env                -- transport FIFO (whole envelopes: the send mutex + framing)
  hold : Option Env              -- envelope the receiver has read and is pushing
  q : Nat → List Env             -- per-kind inbound stream buffers
  delivered : Nat → List Env     -- what handlers / stream readers have seen, per kind
  sent : List Env                -- ghost: order in which Send calls completed

inductive CL | send (i : Nat) | pop | push | consume (k : Nat)
  deriving Repr

def updf {α} (f : Nat → α) (k : Nat) (v : α) : Nat → α := fun x => if x = k then v else f x

def cstep (cap : Nat) (s : CS) : CL → Option CS
  | .send i => match s.prog i with
    | [] => none
    | e :: rest => some { s with prog := updf s.prog i rest, wire := s.wire ++ [e], sent := s.sent ++ [e] }
  | .pop => match s.hold, s.wire with
    | none, e :: w => some { s with hold := some e, wire := w }
    | _, _ => none
  | .push => match s.hold with
    | some e => if (s.q e.kind).length < cap + 1 then
        some { s with hold := none, q := updf s.q e.kind (s.q e.kind ++ [e]) } else none
    | none => none
  | .consume k => match s.q k with
    | e :: r => some { s with q := updf s.q k r, delivered := updf s.delivered k (s.delivered k ++ [e]) }
    | [] => none

def init (progs : Nat → List Env) : CS :=
  { prog := progs, wire := [], hold := none, q := fun _ => [], delivered := fun _ => [], sent := [] }

def runL (cap : Nat) : CS → List CL → Option CS
  | s, [] => some s
  | s, l :: ls => match cstep cap s l with | some s' => runL cap s' ls | none => none

def ofKind (k : Nat) (l : List Env) : List Env := l.filter (fun e => e.kind = k)
def bySender (i : Nat) (l : List Env) : List Env := l.filter (fun e => e.sender = i)
def holdK (k : Nat) (h : Option Env) : List Env :=
  match h with | some e => if e.kind = k then [e] else [] | none => []

/-- the judge of a finished run, used on the model (theorem `quiescent_judged`) and, through the
driver, on histories recorded from the implementation: per kind, what was delivered carries that
kind and a known sender, and restricted to each sender it is exactly what that sender's successful
sends of that kind were, in order — nothing lost, duplicated, invented or reordered. -/
def judge (nS nK : Nat) (sentBy : Nat → List Env) (delivered : Nat → List Env) : Bool :=
  (List.range nK).all fun k =>
    (delivered k).all (fun e => decide (e.kind = k) && decide (e.sender < nS)) &&
    (List.range nS).all fun i => decide (bySender i (delivered k) = ofKind k (sentBy i))

/-- the same for a run that was cut short: a prefix, per sender and kind -/
def judgePrefix (nS nK : Nat) (sentBy : Nat → List Env) (delivered : Nat → List Env) : Bool :=
  (List.range nK).all fun k =>
    (delivered k).all (fun e => decide (e.kind = k) && decide (e.sender < nS)) &&
    (List.range nS).all fun i => (bySender i (delivered k)).isPrefixOf (ofKind k (sentBy i))

end LimeModel.Chan
