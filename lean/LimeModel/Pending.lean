import LimeModel.Generated
/-!
# M4: the pending-command table (channel.go `processCommand` ‖ `trySubmitCommandResult`)

Lock-region granularity: every labelled step is one critical section of `processingCmdsMu` or one
channel operation. Any number of `ProcessCommand` calls (callers `i`, command ids `id`), one
receiver goroutine taking responses from `incoming` in order. `fixed = true` is the code as it is
(lookup and delete form one critical section; the deferred delete removes only the caller's own
registration); `fixed = false` is the tree before the repair (lookup under RLock, delete under a
second Lock; unconditional deferred delete), kept for the witness schedule.
-/
namespace LimeModel.Pending

structure Resp where
  id : Nat
  tag : Nat          -- distinguishes responses
  deriving DecidableEq, Repr

inductive Result | rejected | sendErr | ctxErr | resp (r : Resp)
  deriving DecidableEq, Repr

inductive PC | absent | start | registered | waiting | cleanup (res : Result) | done (res : Result)
  deriving DecidableEq, Repr

structure Caller where
  id : Nat
  pc : PC
  deriving DecidableEq, Repr

inductive RcvPC | idle | lookedUp (r : Resp) (ch : Nat) | deleted (r : Resp) (ch : Nat)
  deriving DecidableEq, Repr

structure S where
  table : Nat → Option Nat        -- command id ↦ caller (= its reply channel)
  chan : Nat → Option Resp        -- one-slot reply channel per caller
  caller : Nat → Caller
  rcv : RcvPC
  incoming : List Resp
  stream : List Resp

inductive Lbl
  | spawn (i id : Nat)            -- a new ProcessCommand call i for command id
  | register (i : Nat)
  | send (i : Nat) (ok : Bool)
  | take (i : Nat)                -- select picks the reply channel
  | cancel (i : Nat)              -- select picks ctx.Done
  | cleanup (i : Nat)             -- deferred delete
  | rcvLookup | rcvDelete | rcvHandoff
  deriving Repr

def upd {α} (f : Nat → α) (k : Nat) (v : α) : Nat → α := fun x => if x = k then v else f x

def setPC (s : S) (i : Nat) (pc : PC) : S := { s with caller := upd s.caller i { (s.caller i) with pc := pc } }

def step (fixed : Bool) (s : S) : Lbl → Option S
  | .spawn i id => if (s.caller i).pc = .absent then some { s with caller := upd s.caller i ⟨id, .start⟩ } else none
  | .register i =>
    if (s.caller i).pc = .start then
      match s.table (s.caller i).id with
      | some _ => some (setPC s i (.done .rejected))
      | none => some (setPC { s with table := upd s.table (s.caller i).id (some i) } i .registered)
    else none
  | .send i ok =>
    if (s.caller i).pc = .registered then some (setPC s i (if ok then .waiting else .cleanup .sendErr)) else none
  | .take i =>
    if (s.caller i).pc = .waiting then
      match s.chan i with
      | some r => some (setPC { s with chan := upd s.chan i none } i (.cleanup (.resp r)))
      | none => none
    else none
  | .cancel i => if (s.caller i).pc = .waiting then some (setPC s i (.cleanup .ctxErr)) else none
  | .cleanup i =>
    match (s.caller i).pc with
    | .cleanup res =>
      let del := !fixed || s.table (s.caller i).id == some i
      some (setPC (if del then { s with table := upd s.table (s.caller i).id none } else s) i (.done res))
    | _ => none
  | .rcvLookup =>
    if s.rcv = .idle then
      match s.incoming with
      | [] => none
      | r :: rest =>
        match s.table r.id with
        | none => some { s with incoming := rest, stream := s.stream ++ [r] }
        | some ch =>
          if fixed then some { s with incoming := rest, table := upd s.table r.id none, rcv := .deleted r ch }
          else some { s with incoming := rest, rcv := .lookedUp r ch }
    else none
  | .rcvDelete =>
    match s.rcv with
    | .lookedUp r ch => some { s with table := upd s.table r.id none, rcv := .deleted r ch }
    | _ => none
  | .rcvHandoff =>
    match s.rcv with
    | .deleted r ch =>
      match s.chan ch with
      | none => some { s with chan := upd s.chan ch (some r), rcv := .idle }
      | some _ => none       -- would block
    | _ => none

def init (incoming : List Resp) : S :=
  { table := fun _ => none, chan := fun _ => none, caller := fun _ => ⟨0, .absent⟩, rcv := .idle, incoming, stream := [] }

def runL (fixed : Bool) : S → List Lbl → Option S
  | s, [] => some s
  | s, l :: ls => match step fixed s l with | some s' => runL fixed s' ls | none => none


/-- which variant the code is: see `Props.C05` and the differential mode `c05` -/
def repaired : Bool :=
  Generated.pendingLookupDeleteOneRegion && Generated.pendingCleanupConditional

end LimeModel.Pending
