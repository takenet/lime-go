import LimeModel.Json
import LimeModel.Text
/-!
# Documents (document.go, mediatype.go `GetDocumentFactory` / `UnmarshalDocument`)
-/
namespace LimeModel
open Json

/-- a document value; its media type is carried next to it by the envelope / container / collection -/
inductive Doc where
  | text (s : Str)                                   -- `TextDocument`
  | json (kvs : List (Str × Json))                   -- `JsonDocument` (a non-nil map)
  | container (t : MT) (v : Doc)                     -- `DocumentContainer{Type, Value}`
  | collection (total : Int) (itemType : MT) (items : Option (List Doc))   -- `none` = nil slice
  | ping
  deriving Repr

def mtTextPlain : MT := ⟨cs!"text", cs!"plain", []⟩
def mtAppJson : MT := ⟨cs!"application", cs!"json", []⟩
def mtContainer : MT := ⟨cs!"application", cs!"vnd.lime.container", cs!"json"⟩
def mtCollection : MT := ⟨cs!"application", cs!"vnd.lime.collection", cs!"json"⟩
def mtPing : MT := ⟨cs!"application", cs!"vnd.lime.ping", cs!"json"⟩

inductive DocKind | text | json | container | collection | ping
  deriving DecidableEq, Repr

/-- `GetDocumentFactory` with the five built-in registrations: exact media type first, then
`+json` ↦ generic JSON, anything else ↦ plain text. -/
def factoryFor (t : MT) : DocKind :=
  if t = mtTextPlain then .text
  else if t = mtAppJson then .json
  else if t = mtContainer then .container
  else if t = mtCollection then .collection
  else if t = mtPing then .ping
  else if t.isJson then .json
  else .text

/-- `Document.MediaType()` -/
def Doc.mt : Doc → MT
  | .text _ => mtTextPlain
  | .json _ => mtAppJson
  | .container _ _ => mtContainer
  | .collection _ _ _ => mtCollection
  | .ping => mtPing

def Doc.kind : Doc → DocKind
  | .text _ => .text
  | .json _ => .json
  | .container _ _ => .container
  | .collection _ _ _ => .collection
  | .ping => .ping

/-- keep, for every key, its last binding (what decoding into a Go map leaves) -/
def dedupKeys {α} : List (Str × α) → List (Str × α)
  | [] => []
  | (k, v) :: t => if t.any (fun p => p.1 == k) then dedupKeys t else (k, v) :: dedupKeys t

mutual
/-- decoding into `interface{}` / `map[string]interface{}`: nested objects become maps -/
def Json.norm : Json → Json
  | .arr l => .arr (Json.normList l)
  | .obj kvs => .obj (dedupKeys (Json.normKvs kvs))
  | j => j
def Json.normList : List Json → List Json
  | [] => []
  | j :: t => Json.norm j :: Json.normList t
def Json.normKvs : List (Str × Json) → List (Str × Json)
  | [] => []
  | (k, v) :: t => (k, Json.norm v) :: Json.normKvs t
end

/-- `total` has `omitempty` -/
def totalField (total : Int) : List (Str × Json) :=
  if total = 0 then [] else [(cs!"total", .num (.int total))]

mutual
def Doc.enc : Doc → Json
  | .text s => .str s
  | .json kvs => .obj kvs
  | .container t v => .obj [(cs!"type", .str (printMT t)), (cs!"value", Doc.enc v)]
  | .collection total it items =>
    .obj (totalField total ++
      [(cs!"itemType", .str (printMT it)), (cs!"items", Doc.encItems items)])
  | .ping => .obj []
def Doc.encItems : Option (List Doc) → Json
  | none => .null
  | some l => .arr (Doc.encList l)
def Doc.encList : List Doc → List Json
  | [] => []
  | d :: t => Doc.enc d :: Doc.encList t
end

/-- `UnmarshalDocument` called with a nil `*json.RawMessage` (member absent or `null`):
"document value is required". (Before the repair this was a nil dereference, i.e. `.panic`.) -/
def nilRawDeref {α} : Outcome α := .err

/-- the last occurrence of an `items` member, after all occurrences were accepted -/
def itemsField (kvs : List (Str × Json)) : Outcome (Option (List Json)) :=
  foldVals (fun _ v => match v with
    | .arr l => .ok (some l)
    | .null => .ok none
    | _ => .err) none (fieldVals cs!"items" kvs)

theorem itemsField_sizeOf {kvs : List (Str × Json)} {l : List Json}
    (h : itemsField kvs = .ok (some l)) : sizeOf l < sizeOf kvs := by
  refine (foldVals_sat (P := fun o => ∀ l, o = some l → sizeOf l < sizeOf kvs) (fun _ v hv _ => ?_) nofun).of_ok h l rfl
  cases v with
  | arr l' =>
    rintro _ ⟨⟩
    have := sizeOf_lt_of_mem_fieldVals hv
    rw [Json.arr.sizeOf_spec] at this
    omega
  | null => exact nofun
  | _ => trivial

mutual
/-- `UnmarshalDocument(&raw, t)` for a non-nil raw value `j`. -/
def Doc.dec (j : Json) (t : MT) : Outcome Doc :=
  match factoryFor t with
  | .text =>
    match j with
    | .str s => .ok (.text s)
    | _ => .err
  | .json =>
    match j with
    | .obj kvs => .ok (.json (dedupKeys (Json.normKvs kvs)))
    | _ => .err
  | .ping =>
    match j with
    | .obj _ => .ok .ping
    | _ => .err
  | .container =>
    match j with
    | .obj kvs =>
      match foldVals (ptrText parseMT) none (fieldVals cs!"type" kvs) with
      | .err => .err
      | .panic => .panic
      | .ok none => .err                         -- "document type is required"
      | .ok (some t') =>
        match h : rawLast cs!"value" kvs with
        | none => nilRawDeref
        | some v =>
          have : sizeOf v < sizeOf kvs := sizeOf_lt_of_rawLast h
          match Doc.dec v t' with
          | .ok d => .ok (.container t' d)
          | .err => .err
          | .panic => .panic
    | _ => .err
  | .collection =>
    match j with
    | .obj kvs =>
      match foldVals intoInt 0 (fieldVals cs!"total" kvs) with
      | .err => .err
      | .panic => .panic
      | .ok total =>
      match foldVals (ptrText parseMT) none (fieldVals cs!"itemType" kvs) with
      | .err => .err
      | .panic => .panic
      | .ok oit =>
      match h : itemsField kvs with
      | .err => .err
      | .panic => .panic
      | .ok items =>
        match oit with
        | none => .err                           -- "document collection item type is required"
        | some it =>
          match items with
          | none => .ok (.collection total it none)
          | some l =>
            have : sizeOf l < sizeOf kvs := itemsField_sizeOf h
            match Doc.decList l it with
            | .ok ds => .ok (.collection total it (some ds))
            | .err => .err
            | .panic => .panic
    | _ => .err
termination_by sizeOf j
decreasing_by
  all_goals simp_wf
  all_goals omega

/-- the items loop of `DocumentCollection.populate`: a `null` item is a nil pointer -/
def Doc.decList (js : List Json) (t : MT) : Outcome (List Doc) :=
  match js with
  | [] => .ok []
  | .null :: _ => nilRawDeref
  | j :: rest =>
    match Doc.dec j t with
    | .ok d =>
      match Doc.decList rest t with
      | .ok ds => .ok (d :: ds)
      | .err => .err
      | .panic => .panic
    | .err => .err
    | .panic => .panic
termination_by sizeOf js
decreasing_by
  all_goals simp_wf
  all_goals omega
end

end LimeModel
