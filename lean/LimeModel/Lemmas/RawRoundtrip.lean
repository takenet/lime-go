import LimeModel.Lemmas.Fields
import LimeModel.Lemmas.Doc
import LimeModel.Lemmas.Text
/-! The raw wire struct survives `json.Marshal` followed by `json.Unmarshal`, member by member. -/
namespace LimeModel
open Json

/-- a map member comes back as it was: nil, or non-empty with distinct keys (as in `Env.wf`) -/
def metaWf : Option (List (Str × Str)) → Bool
  | none => true
  | some [] => false
  | some kvs => keysDistinct kvs

structure Raw.Wf (U : Str → Option Str) (r : Raw) : Prop where
  from_ : optWf Node.wf r.from_ = true
  pp : optWf Node.wf r.pp = true
  to : optWf Node.wf r.to = true
  metadata : metaWf r.metadata = true
  reason : optWf Reason.wf r.reason = true
  type : optWf MT.wf r.type = true
  event : optWf (fun s => notificationEvents.contains s) r.event = true
  method : optWf (fun s => commandMethods.contains s) r.method = true
  state : optWf (fun s => sessionStates.contains s) r.state = true
  uri : optWf (fun u => U u == some u) r.uri = true
  encOpts : optsWf r.encOpts = true
  compOpts : optsWf r.compOpts = true
  schemeOpts : optsWf r.schemeOpts = true
  content : r.content ≠ some .null
  resource : r.resource ≠ some .null
  auth : r.auth ≠ some .null

theorem Raw.Wf.uri_set {U : Str → Option Str} {r : Raw} (h : r.Wf U) {u : Option Str}
    (hu : optWf (fun u => U u == some u) u = true) : Raw.Wf U { r with uri := u } :=
  { h with uri := hu }

theorem Raw.Wf.status_reason_set {U : Str → Option Str} {r : Raw} (h : r.Wf U) (s : Option Str) {x : Option Reason}
    (hx : optWf Reason.wf x = true) : Raw.Wf U { r with status := s, reason := x } :=
  { h with reason := hx }

def Raw.table (r : Raw) (event method state : Option Json) : List (Str × Option Json) :=
  [(cs!"id", idJson r.id),
   (cs!"from", r.from_.map fun n => .str (printNode n)),
   (cs!"pp", r.pp.map fun n => .str (printNode n)),
   (cs!"to", r.to.map fun n => .str (printNode n)),
   (cs!"metadata", metaJson r.metadata),
   (cs!"reason", r.reason.map Reason.toJson),
   (cs!"type", r.type.map fun t => .str (printMT t)),
   (cs!"content", r.content),
   (cs!"event", event),
   (cs!"method", method),
   (cs!"resource", r.resource),
   (cs!"uri", r.uri.map Json.str),
   (cs!"status", r.status.map Json.str),
   (cs!"state", state),
   (cs!"encryptionOptions", sliceJson r.encOpts),
   (cs!"encryption", r.enc.map Json.str),
   (cs!"compressionOptions", sliceJson r.compOpts),
   (cs!"compression", r.comp.map Json.str),
   (cs!"schemeOptions", sliceJson r.schemeOpts),
   (cs!"scheme", r.scheme.map Json.str),
   (cs!"authentication", r.auth)]

theorem Raw.members_eq (r : Raw) (ev me st : Option Json) :
    r.members ev me st = optFields (r.table ev me st) :=
  -- the left-nested `++` chain of `Raw.members` is, by definition, the `foldl` over the table started from `[]`
  (foldl_optField (r.table ev me st) []).trans (List.nil_append _)

theorem Raw.table_keys (r : Raw) (ev me st : Option Json) :
    ((r.table ev me st).map (foldKey ·.1)).Nodup := by
  simp only [Raw.table, List.map_cons, List.map_nil]
  decide +kernel

theorem Raw.fieldVals_members (r : Raw) (ev me st : Option Json) :
    ∀ p ∈ r.table ev me st, fieldVals p.1 (r.members ev me st) = p.2.toList :=
  Raw.members_eq r ev me st ▸ fieldVals_optFields _ (Raw.table_keys r ev me st)

theorem rt_id (id : Str) : foldVals intoString [] (idJson id).toList = .ok id := by
  unfold idJson; split <;> simp_all [intoString]

theorem rt_ptr {α} {assign : Option α → Json → Outcome (Option α)} {enc : α → Json} {wf : α → Bool}
    (ha : ∀ a, wf a = true → assign none (enc a) = .ok (some a)) (o : Option α) (h : optWf wf o = true) :
    foldVals assign none (o.map enc).toList = .ok o := by
  cases o with
  | none => rfl
  | some a => exact (foldVals_single ..).trans (ha a h)

theorem rt_node (o : Option Node) (h : optWf Node.wf o = true) :
    foldVals (ptrText parseNodeSome) none ((o.map (fun n => Json.str (printNode n))).toList) = .ok o :=
  rt_ptr (fun n hn => by simp [ptrText, parseNodeSome, parse_print_node n hn]) o h

theorem rt_mt (o : Option MT) (h : optWf MT.wf o = true) :
    foldVals (ptrText parseMT) none ((o.map (fun t => Json.str (printMT t))).toList) = .ok o :=
  rt_ptr (fun m hm => by simp [ptrText, parse_print_mt m hm]) o h

theorem enumJson_eq (members : List Str) (o : Option Str) (h : optWf (fun s => members.contains s) o = true) :
    enumJson members o = .ok (o.map Json.str) := by
  cases o with
  | none => rfl
  | some s => exact if_pos h

theorem rt_enum (members : List Str) (o : Option Str) (h : optWf (fun s => members.contains s) o = true) :
    foldVals (ptrText (parseEnum members)) none (o.map Json.str).toList = .ok o :=
  rt_ptr (fun s hs => by rw [ptrText, parseEnum, if_pos hs]) o h

theorem rt_uri (U : Str → Option Str) (o : Option Str) (h : optWf (fun u => U u == some u) o = true) :
    foldVals (ptrText U) none ((o.map Json.str).toList) = .ok o :=
  rt_ptr (fun u hu => by simp [ptrText, beq_iff_eq.1 hu]) o h

theorem rt_str (o : Option Str) : foldVals ptrString none ((o.map Json.str).toList) = .ok o := by
  cases o <;> simp [ptrString]

theorem elemsOver_strs (l : List Str) : elemsOver [] (l.map Json.str) = .ok l := by
  induction l with
  | nil => rfl
  | cons a t ih => simp [elemsOver, intoString, Outcome.bind, ih]

theorem rt_slice (o : Option (List Str)) (h : optsWf o = true) :
    foldVals sliceString none (sliceJson o).toList = .ok o := by
  cases o with
  | none => simp [sliceJson]
  | some l =>
    cases l with
    | nil => cases h
    | cons a t =>
      simp only [sliceJson, strList, Option.toList_some, foldVals_single, sliceString, Option.getD_none]
      rw [elemsOver_strs]; rfl

theorem metaElems_strs (kvs : List (Str × Str)) :
    metaElems (kvs.map (fun p => (p.1, Json.str p.2))) = .ok kvs := by
  induction kvs with
  | nil => rfl
  | cons a t ih => obtain ⟨k, v⟩ := a; simp [metaElems, elemString, ih, Outcome.bind]

theorem rt_meta (m : Option (List (Str × Str))) (h : metaWf m = true) :
    foldVals assignMeta none (metaJson m).toList = .ok m := by
  cases m with
  | none => simp [metaJson]
  | some kvs =>
    cases kvs with
    | nil => cases h
    | cons a t =>
      simp only [metaWf] at h
      simp only [metaJson, Option.toList_some, foldVals_single, assignMeta, metaElems_strs,
        Outcome.bind, Option.getD_none, List.nil_append, dedupKeys_of_distinct _ h]

theorem rt_int (i : Int) (h : int64 i = true) :
    foldVals intoInt 0 (if i = 0 then none else some (.num (.int i))).toList = .ok i := by
  simp only [int64, Bool.and_eq_true, decide_eq_true_eq] at h
  split <;> simp_all [intoInt]

def Reason.table (r : Reason) : List (Str × Option Json) :=
  [(cs!"code", if r.code = 0 then none else some (.num (.int r.code))), (cs!"description", idJson r.desc)]

theorem Reason.toJson_eq (r : Reason) : r.toJson = .obj (optFields r.table) := by
  simp only [Reason.toJson, Reason.table, idJson, optFields_cons, optFields_nil, List.append_nil]
  split <;> split <;> rfl

theorem rt_reason (o : Option Reason) (h : optWf Reason.wf o = true) :
    foldVals assignReason none ((o.map Reason.toJson).toList) = .ok o := by
  refine rt_ptr (fun r hr => ?_) o h
  have F := fieldVals_optFields r.table (by simp only [Reason.table, List.map_cons, List.map_nil]; decide)
  rw [Reason.toJson_eq]
  generalize optFields r.table = kvs at F ⊢
  simp only [Reason.table, List.forall_mem_cons] at F
  simp [assignReason, F.1, F.2.1, rt_int r.code hr, rt_id, Outcome.bind]

theorem Raw.roundtrip (U : Str → Option Str) (r : Raw) (h : r.Wf U) :
    ∃ j, r.toJson = .ok j ∧ Raw.ofJson U j = .ok r := by
  refine ⟨.obj (r.members (r.event.map .str) (r.method.map .str) (r.state.map .str)), ?_, ?_⟩
  · simp [Raw.toJson, enumJson_eq _ _ h.event, enumJson_eq _ _ h.method, enumJson_eq _ _ h.state, Outcome.bind]
  have F := Raw.fieldVals_members r (r.event.map .str) (r.method.map .str) (r.state.map .str)
  simp only [Raw.table, List.forall_mem_cons] at F  -- one equation per member, in the order of `Raw.table`
  -- `content`, `resource` and `authentication`, the raw members, are read by `rawLast`; the others go to `simp` as they are (`*`)
  obtain ⟨_, _, _, _, _, _, _, hc, _, _, hres, _, _, _, _, _, _, _, _, _, ha, -⟩ := F
  simp only [Raw.ofJson, bind, Outcome.bind, *,
    rt_id, rt_node _ h.from_, rt_node _ h.pp, rt_node _ h.to, rt_meta _ h.metadata, rt_reason _ h.reason,
    rt_mt _ h.type, rt_enum _ _ h.event, rt_enum _ _ h.method, rt_enum _ _ h.state, rt_uri U _ h.uri,
    rt_str, rt_slice _ h.encOpts, rt_slice _ h.compOpts, rt_slice _ h.schemeOpts,
    rawLast_of_fieldVals hc h.content, rawLast_of_fieldVals hres h.resource, rawLast_of_fieldVals ha h.auth, pure]

end LimeModel
