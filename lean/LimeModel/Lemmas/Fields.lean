import LimeModel.Envelope
/-!
Reading a member back from the object `encoding/json` writes for a struct whose members are all
`omitempty`. Such an object is `optFields t` for a table `t` of JSON names and optional values; as
long as no two names fold to the same key, looking a name up gives exactly the value put under it.
`Raw.members`, `Reason.toJson`, the container and the collection are such objects, so each needs this
once, plus the finite fact about its own names.
-/
namespace LimeModel
open Json

theorem fieldVals_optField (k k' : Str) (v : Option Json) :
    fieldVals k (optField k' v) = if keyMatch k k' = true then v.toList else [] := by
  cases v <;> simp [optField, fieldVals]

def optFields (t : List (Str × Option Json)) : List (Str × Json) := t.flatMap fun p => optField p.1 p.2

@[simp] theorem optFields_nil : optFields [] = [] := rfl
@[simp] theorem optFields_cons (p : Str × Option Json) (t : List (Str × Option Json)) :
    optFields (p :: t) = optField p.1 p.2 ++ optFields t := rfl

theorem foldl_optField (t : List (Str × Option Json)) (acc : List (Str × Json)) :
    t.foldl (fun acc p => acc ++ optField p.1 p.2) acc = acc ++ optFields t := by
  induction t generalizing acc with
  | nil => simp
  | cons p t ih => simp [ih]

theorem fieldVals_optFields_of_not_mem (k : Str) (t : List (Str × Option Json))
    (h : foldKey k ∉ t.map (foldKey ·.1)) : fieldVals k (optFields t) = [] := by
  induction t with
  | nil => rfl
  | cons q t ih =>
    simp only [List.map_cons, List.mem_cons, not_or] at h
    have : keyMatch k q.1 = false := by simpa [keyMatch] using fun e => h.1 e.symm
    simp [fieldVals_append, fieldVals_optField, this, ih h.2]

theorem fieldVals_optFields (t : List (Str × Option Json)) (hd : (t.map (foldKey ·.1)).Nodup) :
    ∀ p ∈ t, fieldVals p.1 (optFields t) = p.2.toList := by
  induction t with
  | nil => simp
  | cons q t ih =>
    simp only [List.map_cons, List.nodup_cons] at hd
    simp only [List.forall_mem_cons, optFields_cons, fieldVals_append, fieldVals_optField]
    refine ⟨by simp [keyMatch, fieldVals_optFields_of_not_mem q.1 t hd.1], fun p hp => ?_⟩
    have : keyMatch p.1 q.1 = false := by
      simp only [keyMatch, beq_eq_false_iff_ne]
      exact fun e => hd.1 (e ▸ List.mem_map_of_mem (f := (foldKey ·.1)) hp)
    simp [this, ih hd.2 p hp]

theorem rawLast_of_fieldVals {k : Str} {kvs : List (Str × Json)} {o : Option Json}
    (hf : fieldVals k kvs = o.toList) (h : o ≠ some .null) : rawLast k kvs = o := by
  unfold rawLast lastVal
  rw [hf]
  cases o with
  | none => rfl
  | some j => cases j <;> simp_all

end LimeModel
