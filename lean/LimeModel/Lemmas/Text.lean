import LimeModel.WF
/-! `splitOn` on strings built with a separator, and the print/parse laws of identity, node and media type. -/
namespace LimeModel

theorem splitOn_ne_nil (sep : Char) (s : Str) : splitOn sep s ≠ [] := by
  cases s with
  | nil => simp [splitOn]
  | cons c t =>
    unfold splitOn
    split
    · simp
    · split <;> simp

theorem splitOn_cons_ne (sep c : Char) (t : Str) (h : c ≠ sep) :
    splitOn sep (c :: t) = match splitOn sep t with
      | [] => [[c]]
      | x :: r => (c :: x) :: r := by
  rw [splitOn]; simp only [h, ↓reduceIte]; cases splitOn sep t <;> rfl

theorem splitOn_cons_eq (sep : Char) (t : Str) : splitOn sep (sep :: t) = [] :: splitOn sep t := by
  rw [splitOn]; simp

theorem splitOn_noSep (sep : Char) (s : Str) (h : sep ∉ s) : splitOn sep s = [s] := by
  induction s with
  | nil => rfl
  | cons c t ih =>
    have hc : c ≠ sep := fun e => h (by simp [e])
    have ht : sep ∉ t := fun m => h (List.mem_cons_of_mem _ m)
    rw [splitOn_cons_ne _ _ _ hc, ih ht]

theorem splitOn_append (sep : Char) (a b : Str) (h : sep ∉ a) :
    splitOn sep (a ++ sep :: b) = a :: splitOn sep b := by
  induction a with
  | nil => simp [splitOn_cons_eq]
  | cons c t ih =>
    have hc : c ≠ sep := fun e => h (by simp [e])
    have ht : sep ∉ t := fun m => h (List.mem_cons_of_mem _ m)
    rw [List.cons_append, splitOn_cons_ne _ _ _ hc, ih ht]

theorem noSep_iff {seps : List Char} {s : Str} : noSep seps s = true ↔ ∀ c ∈ s, c ∉ seps := by
  simp [noSep, List.all_eq_true]

theorem noSep_not_mem {seps : List Char} {s : Str} (h : noSep seps s = true) {c : Char}
    (hc : c ∈ seps) : c ∉ s := fun hm => noSep_iff.1 h c hm hc

theorem noSep_mono {seps seps' : List Char} {s : Str} (hsub : ∀ c ∈ seps', c ∈ seps)
    (h : noSep seps s = true) : noSep seps' s = true :=
  noSep_iff.2 fun c hc hs => noSep_iff.1 h c hc (hsub c hs)

theorem parse_print_identity (i : Identity) (h : i.wf = true) :
    parseIdentity (printIdentity i) = i := by
  simp only [Identity.wf, Bool.and_eq_true] at h
  have hn : '@' ∉ i.name := noSep_not_mem h.1 (by decide)
  have hd : '@' ∉ i.domain := noSep_not_mem h.2 (by decide)
  unfold parseIdentity
  fun_cases printIdentity i with
  | case1 h1 => obtain ⟨name, domain⟩ := i; cases h1.1; cases h1.2; rfl
  | case2 h1 h2 => obtain ⟨name, domain⟩ := i; cases h2; simp [splitOn_noSep _ _ hn]
  | case3 h1 h2 => simp [splitOn_append _ _ _ hn, splitOn_noSep _ _ hd]

theorem not_mem_printIdentity {c : Char} {i : Identity} (hn : c ∉ i.name) (hd : c ∉ i.domain) (hc : c ≠ '@') :
    c ∉ printIdentity i := by
  fun_cases printIdentity i with
  | case1 => exact List.not_mem_nil
  | case2 => exact hn
  | case3 => exact fun h => (List.mem_append.1 h).elim hn fun h => (List.mem_cons.1 h).elim hc hd

theorem parse_print_node (n : Node) (h : n.wf = true) : parseNode (printNode n) = n := by
  obtain ⟨name, domain, inst⟩ := n
  simp only [Node.wf, Bool.and_eq_true] at h
  obtain ⟨⟨h1, h2⟩, h3⟩ := h
  have hn : '@' ∉ name := noSep_not_mem h1 (by decide)
  have hn' : '/' ∉ name := noSep_not_mem h1 (by decide)
  have hd : '@' ∉ domain := noSep_not_mem h2 (by decide)
  have hd' : '/' ∉ domain := noSep_not_mem h2 (by decide)
  have hi : '/' ∉ inst := noSep_not_mem h3 (by decide)
  have hid : parseIdentity (printIdentity ⟨name, domain⟩) = ⟨name, domain⟩ :=
    parse_print_identity ⟨name, domain⟩ (by simp [Identity.wf, noSep_mono _ h1, noSep_mono _ h2])
  have hslash : '/' ∉ printIdentity ⟨name, domain⟩ := not_mem_printIdentity hn' hd' (by decide)
  unfold printNode parseNode
  simp only [Node.identity]
  by_cases hz : name = [] ∧ domain = [] ∧ inst = []
  · obtain ⟨rfl, rfl, rfl⟩ := hz; simp [splitOn, parseIdentity]
  · simp only [hz, ↓reduceIte]
    by_cases hi0 : inst = []
    · subst hi0
      simp [splitOn_noSep _ _ hslash, hid]
    · simp [hi0, splitOn_append _ _ _ hslash, splitOn_noSep _ _ hi, hid]

theorem parse_print_mt (m : MT) (h : m.wf = true) : parseMT (printMT m) = some m := by
  obtain ⟨type, subtype, suffix⟩ := m
  simp only [MT.wf, Bool.and_eq_true, Bool.not_eq_true', List.isEmpty_eq_false_iff] at h
  obtain ⟨⟨⟨⟨ht0, hs0⟩, h1⟩, h2⟩, h3⟩ := h
  have ht : '/' ∉ type := noSep_not_mem h1 (by decide)
  have ht' : '+' ∉ type := noSep_not_mem h1 (by decide)
  have hs : '/' ∉ subtype := noSep_not_mem h2 (by decide)
  have hs' : '+' ∉ subtype := noSep_not_mem h2 (by decide)
  have hx : '+' ∉ suffix := noSep_not_mem h3 (by decide)
  have hplus : '+' ∉ type ++ '/' :: subtype := by
    simp only [List.mem_append, List.mem_cons, not_or]
    exact ⟨ht', by decide, hs'⟩
  unfold printMT parseMT
  have hz : ¬(type = [] ∧ subtype = [] ∧ suffix = []) := fun hh => ht0 hh.1
  simp only [hz, ↓reduceIte]
  by_cases hx0 : suffix = []
  · subst hx0
    simp [splitOn_noSep _ _ hplus, splitOn_append _ _ _ ht, splitOn_noSep _ _ hs, ht0, hs0]
  · simp only [hx0, ↓reduceIte]
    have : type ++ '/' :: subtype ++ '+' :: suffix = (type ++ '/' :: subtype) ++ '+' :: suffix := by simp
    rw [this, splitOn_append _ _ _ hplus, splitOn_noSep _ _ hx]
    simp [splitOn_append _ _ _ ht, splitOn_noSep _ _ hs, ht0, hs0]

end LimeModel
