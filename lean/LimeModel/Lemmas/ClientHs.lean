import LimeModel.ClientHs
/-!
# The client handshake as seen by a property of its trace

A property of the client handshake is a fold over the trace, coupled at most to the registers
`state` and `enc`. `Keeps c S W` lists what such a property has to know: one fact per kind of event.
`establish_post` carries it through `recvFromServer`, `authLoop`, `negotiateBlock` and `establish`,
once for all properties; what the model does with its other registers (`sid`, the nodes,
`connected`) is accounted for here, in `Adopted`.
-/
namespace LimeModel.ClientHs
open LimeModel.ServerHs (SState Ses Recv Opt)

@[simp] theorem stopsEstablished_trace (s : St) : (stopsEstablished s).trace = s.trace := by
  unfold stopsEstablished; split <;> rfl
@[simp] theorem stopsEstablished_state (s : St) : (stopsEstablished s).state = s.state := by
  unfold stopsEstablished; split <;> rfl
@[simp] theorem stopsEstablished_sid (s : St) : (stopsEstablished s).sid = s.sid := by
  unfold stopsEstablished; split <;> rfl
@[simp] theorem stopsEstablished_enc (s : St) : (stopsEstablished s).enc = s.enc := by
  unfold stopsEstablished; split <;> rfl
@[simp] theorem stopsEstablished_comp (s : St) : (stopsEstablished s).comp = s.comp := by
  unfold stopsEstablished; split <;> rfl
@[simp] theorem stopsEstablished_local (s : St) : (stopsEstablished s).localNode = s.localNode := by
  unfold stopsEstablished; split <;> rfl
@[simp] theorem stopsEstablished_remote (s : St) : (stopsEstablished s).remoteNode = s.remoteNode := by
  unfold stopsEstablished; split <;> rfl
@[simp] theorem stopsEstablished_recvs (s : St) : (stopsEstablished s).recvs = s.recvs := by
  unfold stopsEstablished; split <;> rfl

/-- `s'` differs from `s` only in registers that no property reads: what `Keeps.frame` carries a property across -/
structure Same (s s' : St) : Prop where
  trace : s'.trace = s.trace
  state : s'.state = s.state
  enc : s'.enc = s.enc

theorem markEof_same (c : Cfg) (s : St) : Same s (markEof c s) := by
  unfold markEof; split <;> exact ⟨rfl, rfl, rfl⟩

theorem stopsEstablished_same (s : St) : Same s (stopsEstablished s) :=
  ⟨stopsEstablished_trace s, stopsEstablished_state s, stopsEstablished_enc s⟩

theorem sendSession_cases (s : St) (e : Ses) :
    Same (s.log (.emit e s.enc)) (sendSession s e).2 ∨ Same s (sendSession s e).2 := by
  fun_cases sendSession s e
  · exact .inr ⟨rfl, rfl, rfl⟩
  · exact .inr ⟨rfl, rfl, rfl⟩
  · exact .inl ⟨rfl, rfl, rfl⟩
  · exact .inl ⟨rfl, rfl, rfl⟩
  · exact .inr ⟨rfl, rfl, rfl⟩

theorem nextItem_same (c : Cfg) (s : St) :
    Same ((nextItem c s).1.elim s fun r => s.log (.recv r)) (nextItem c s).2 := by
  fun_cases nextItem c s
  · exact markEof_same c s
  · exact ⟨(markEof_same c _).trace, (markEof_same c _).state, (markEof_same c _).enc⟩ -- `.fail true`
  · exact ⟨rfl, rfl, rfl⟩
  · exact ⟨rfl, rfl, rfl⟩

theorem nextItem_none {c : Cfg} {s : St} (h : (nextItem c s).1 = none) : Same s (nextItem c s).2 := by
  simpa [h] using nextItem_same c s

theorem nextItem_some {c : Cfg} {s : St} {r : Recv} (h : (nextItem c s).1 = some r) :
    Same (s.log (.recv r)) (nextItem c s).2 := by
  simpa [h] using nextItem_same c s

/-- the two callbacks and the closing of the transport: events no property of the trace looks at -/
def Ev.quiet : Ev → Bool
  | .selCall .. | .authCall .. | .close => true
  | _ => false

/-- the three envelopes the client writes, given the server envelope it last received -/
inductive Sendable (c : Cfg) : Option Ses → Ses → Prop
  | new : Sendable c none { state := .new }
  | selection (x : Ses) : Sendable c (some x)
      { id := x.id, state := .negotiating, comp := c.compSel x.compOpts, enc := c.encSel x.encOpts }
  | credentials (x : Ses) (a : Auth) : x.state = .authenticating → Sendable c (some x)
      { id := x.id, from_ := ⟨c.identity.name, c.identity.domain, c.inst⟩, state := .authenticating,
        scheme := a.scheme, auth := some a }

/-- What a property has to know about the handshake. `S o s`: the property holds in `s`, the last
server envelope received being `o`; `W s`: what is left of it in a state the handshake gives up in. -/
structure Keeps (c : Cfg) (S : Option Ses → St → Prop) (W : St → Prop) : Prop where
  weak : ∀ {o s}, S o s → W s
  frame : ∀ {o s s'}, S o s → Same s s' → S o s'
  wframe : ∀ {s s'}, W s → Same s s' → W s'
  quiet : ∀ {o s} (e : Ev), e.quiet = true → S o s → S o (s.log e)
  emit : ∀ {o s e}, Sendable c o e → S o s → S o (s.log (.emit e s.enc))
  recvSes : ∀ {o s} (x : Ses), S o s → S (some x) (s.log (.recv (.ses x)))
  /-- consumed by the receiver goroutine: the channel is established -/
  recvEst : ∀ {o s} (r : Recv), (∀ x, r ≠ .ses x) → s.state = .established → S o s → S o (s.log (.recv r))
  /-- consumed by the handshake, which gives up -/
  recvBad : ∀ {o s} (r : Recv), (∀ x, r ≠ .ses x) → S o s → W (s.log (.recv r))
  setState : ∀ {o s} (x : SState), s.state.step ≤ x.step → S o s → S o (setState s x)
  /-- about all of `applyConfirmed`, not one event: a property such as C09's (the transport is on the confirmed
  encryption) is false between the `.confirmed` event and the `setEnc` that follows it -/
  confirmed : ∀ {o s} (x : Ses), S o s →
    W (applyConfirmed s x).2 ∧ ((applyConfirmed s x).1 = true → S o (applyConfirmed s x).2)

/-- what `recvFromServer` has done to the registers when it hands over `x`; `establish_post` returns it beside the property -/
structure Adopted (x : Ses) (s : St) : Prop where
  sid : s.sid = x.id
  state : s.state = x.state
  nodes : x.state = .established → s.localNode = x.to ∧ s.remoteNode = x.from_
  closed : x.state = .finished ∨ x.state = .failed → s.connected = false

abbrev Got (S : Option Ses → St → Prop) (x : Ses) (s : St) : Prop := S (some x) s ∧ Adopted x s

/-- a post-condition by outcome, of the receive steps (`RPost`) and of `authLoop` and `establish` (`EPost`):
`Q` of what is returned, `W` on error, no panic -/
def RPost (Q : Ses → St → Prop) (W : St → Prop) (r : RecvRes × St) : Prop :=
  match r.1 with
  | .got x => Q x r.2
  | .err => W r.2
  | .panic => False

def EPost (Q : Ses → St → Prop) (W : St → Prop) (r : Res × St) : Prop :=
  match r.1 with
  | .ok x => Q x r.2
  | .err => W r.2
  | .panic => False

theorem EPost.weaken {Q : Ses → St → Prop} {W : St → Prop} {r : Res × St} (h : EPost Q W r)
    (hq : ∀ x s, Q x s → W s) : W r.2 := by
  obtain ⟨res, s⟩ := r
  cases res with
  | ok x => exact hq x s h
  | err => exact h
  | panic => exact h.elim

/-! The model's functions are chains of two shapes of step, a guard (`guard`; `ite_post` where both branches
go on) and the three-way `match` on what a receive returned (`RPost.bind`); the rules hold for any
post-condition `P` (`RPost Q W` or `EPost Q W`, which compute on `(.err, s)` to `W s`), so that a proof about a
function follows its definition and names only the steps that do something. The rest of the function is the term `e`. -/
section
variable {α : Type} {P : α → Prop} {g : Prop} [Decidable g] {a b e : α}

theorem ite_post (ha : g → P a) (he : ¬g → P e) : P (if g then a else e) := by
  split
  · exact ha ‹_›
  · exact he ‹_›

/-- `if g then (.err, s) else e`, also the failing send `let r := …; if !r.1 then (.err, r.2) else e` -/
theorem guard (ha : P a) (he : ¬g → P e) : P (if g then a else e) := ite_post (fun _ => ha) he

/-- `let q := …; match q.1 with | .err => (.err, q.2) | .panic => (.panic, q.2) | .got x => e x`, where `a` is
`(.err, q.2)` of either result type -/
theorem RPost.bind {Q : Ses → St → Prop} {W : St → Prop} {q : RecvRes × St} {e : Ses → α} (h : RPost Q W q)
    (ha : W q.2 → P a) (he : ∀ x, Q x q.2 → P (e x)) : P (match q.1 with | .err => a | .panic => b | .got x => e x) := by
  obtain ⟨res, s⟩ := q
  cases res with
  | got x => exact he x h
  | err => exact ha h
  | panic => exact h.elim

end

/-- `SetCompression` succeeds only where there is nothing to do -/
theorem applyComp_cases (s : St) (x : Opt) :
    applyComp s x = (true, s) ∨ applyComp s x = (false, s.log (.setComp x false)) := by
  unfold applyComp; split
  · exact .inr rfl
  · exact .inl rfl

theorem applyEnc_cases (s : St) (e : Opt) :
    (e ≠ [] ∧ applyEnc s e = (true, ({ s with enc := e }).log (.setEnc e true))) ∨
    applyEnc s e = (false, s.log (.setEnc e false)) ∨
    ((e = [] ∨ e = s.enc) ∧ applyEnc s e = (true, s)) := by
  fun_cases applyEnc s e with
  | case1 h => exact .inl ⟨h.1, rfl⟩
  | case2 => exact .inr (.inl rfl)
  | case3 hn =>
    exact .inr (.inr ⟨(Decidable.not_and_iff_not_or_not.mp hn).imp Decidable.not_not.mp Decidable.not_not.mp, rfl⟩)

theorem applyConfirmed_cases (s : St) (x : Ses) :
    applyConfirmed s x = (true, s) ∨
    applyConfirmed s x = (false, (s.log (.confirmed x.comp x.enc)).log (.setComp x.comp false)) ∨
    applyConfirmed s x = (false, (s.log (.confirmed x.comp x.enc)).log (.setEnc x.enc false)) ∨
    (x.enc ≠ [] ∧ applyConfirmed s x =
      (true, ({ s.log (.confirmed x.comp x.enc) with enc := x.enc }).log (.setEnc x.enc true))) ∨
    ((x.enc = [] ∨ x.enc = s.enc) ∧ applyConfirmed s x = (true, s.log (.confirmed x.comp x.enc))) := by
  unfold applyConfirmed
  split
  · dsimp only
    rcases applyComp_cases (s.log (.confirmed x.comp x.enc)) x.comp with hc | hc <;> rw [hc]
    · rcases applyEnc_cases (s.log (.confirmed x.comp x.enc)) x.enc with ⟨he, ha⟩ | ha | ⟨he, ha⟩
      · exact .inr (.inr (.inr (.inl ⟨he, ha⟩)))
      · exact .inr (.inr (.inl ha))
      · exact .inr (.inr (.inr (.inr ⟨he, ha⟩)))
    · exact .inr (.inl rfl)
  · exact .inl rfl

/-- the events `applyConfirmed` logs -/
def Ev.transport : Ev → Bool
  | .confirmed .. | .setEnc .. | .setComp .. => true
  | _ => false

/-- `Keeps.confirmed` for a property that looks neither at those events nor at the encryption in force -/
theorem confirmed_of_silent {I : St → Prop} (log : ∀ {s} (e : Ev), e.transport = true → I s → I (s.log e))
    (enc : ∀ {s} (e : Opt), I s → I { s with enc := e }) {s : St} (x : Ses) (h : I s) :
    I (applyConfirmed s x).2 := by
  have h1 := log (.confirmed x.comp x.enc) rfl h
  rcases applyConfirmed_cases s x with e | e | e | ⟨_, e⟩ | ⟨_, e⟩ <;> rw [e]
  · exact h
  · exact log _ rfl h1
  · exact log _ rfl h1
  · exact log _ rfl (enc _ h1)
  · exact h1

theorem of_not_bnot {b : Bool} (h : ¬(!b) = true) : b = true := by simpa using h

theorem adopt_sid (s : St) (x : Ses) : (adopt s x).sid = x.id := by unfold adopt; split <;> rfl
theorem adopt_state (s : St) (x : Ses) : (adopt s x).state = x.state := by unfold adopt; split <;> rfl
theorem adopt_nodes (s : St) (x : Ses) (h : x.state = .established) :
    (adopt s x).localNode = x.to ∧ (adopt s x).remoteNode = x.from_ := by
  unfold adopt; rw [if_pos h]; exact ⟨rfl, rfl⟩

section
variable {c : Cfg} {S : Option Ses → St → Prop} {W : St → Prop} (k : Keeps c S W)
include k

theorem nextItem_est {o : Option Ses} {s : St} {r : Recv} (hs : s.state = .established) (h : S o s)
    (hq : (nextItem c s).1 = some r) (hr : ∀ x, r ≠ .ses x) : S o (nextItem c s).2 :=
  k.frame (k.recvEst _ hr hs h) (nextItem_some hq)

theorem recvViaReceiver_post {o : Option Ses} (fuel : Nat) (s : St) (hs : s.state = .established) (h : S o s) :
    RPost (fun x => S (some x)) W (recvViaReceiver c fuel s) := by
  fun_induction recvViaReceiver c fuel s with
  | case1 => exact k.weak h
  | case2 _ _ _ hq => exact k.weak (k.frame h (nextItem_none hq))
  | case3 _ _ _ x hq hacc => -- a session envelope whose state is accepted
    exact k.frame (k.setState _ (of_decide_eq_true hacc) (k.frame (k.recvSes x h) (nextItem_some hq)))
      (stopsEstablished_same _)
  | case4 _ _ _ _ _ _ hp => exact absurd hp (by decide) -- `regressPanics`
  | case5 _ _ _ x hq => -- a session envelope whose state is refused
    exact k.frame (k.frame (k.recvSes x h) (nextItem_some hq)) (stopsEstablished_same _)
  | case6 _ _ _ hq ih => -- `.other`: on to the next
    exact ih ((nextItem_some hq).state.trans hs) (nextItem_est k hs h hq fun _ e => nomatch e)
  | case7 _ _ _ _ hq => -- `.fail`
    exact k.weak (k.frame (nextItem_est k hs h hq fun _ e => nomatch e) ⟨rfl, rfl, rfl⟩)
  | case8 _ _ _ _ hq => exact k.weak (nextItem_est k hs h hq fun _ e => nomatch e) -- `.sesGone`

theorem receiveSession_post {o : Option Ses} {s : St} (h : S o s) :
    RPost (fun x => S (some x)) W (receiveSession c s) := by
  fun_cases receiveSession c s
  · exact k.weak h
  · exact recvViaReceiver_post k _ s ‹_› h
  · exact k.weak h
  · exact k.frame (k.recvSes _ h) (nextItem_some ‹_›)
  · rename_i hq -- anything but a session envelope: the handshake gives up
    cases hr : (nextItem c s).1 with
    | none => exact k.weak (k.frame h (nextItem_none hr))
    | some r => exact k.wframe (k.recvBad r (fun x e => hq x (e ▸ hr)) h) (nextItem_some hr)

theorem adopt_post {x : Ses} {s : St} (hacc : s.state.step ≤ x.state.step) (h : S (some x) s) :
    S (some x) (adopt s x) := by
  unfold adopt
  split <;> exact k.setState _ hacc (k.frame h ⟨rfl, rfl, rfl⟩)

theorem recvFromServer_post {o : Option Ses} {s : St} (h : S o s) : RPost (Got S) W (recvFromServer c s) := by
  unfold recvFromServer
  -- a regressing state is refused: `refuse` is `(.err, _)`, `regressPanics` being `false` (a panic before the repair)
  refine (receiveSession_post k h).bind id fun x hx => guard (k.weak hx) fun hacc => ?_
  have h1 := adopt_post k (of_decide_eq_true (of_not_bnot hacc)) hx
  have hsid := adopt_sid (receiveSession c s).2 x
  have hst := adopt_state (receiveSession c s).2 x
  have hn := adopt_nodes (receiveSession c s).2 x
  unfold finishRecv
  refine ite_post (fun _ => ite_post (fun _ => ?_) fun _ => ?_) fun ht => ?_
  · exact ⟨k.quiet .close rfl (k.frame h1 ⟨rfl, rfl, rfl⟩), hsid, hst, hn, fun _ => rfl⟩  -- a terminal state: the transport is closed
  · exact k.weak h1  -- closing a closed transport is an error
  · exact ⟨h1, hsid, hst, hn, fun ht' => absurd ht' ht⟩

theorem sendSession_post {o : Option Ses} {s : St} {e : Ses} (he : Sendable c o e) (h : S o s) :
    S o (sendSession s e).2 :=
  (sendSession_cases s e).elim (k.frame (k.emit he h)) (k.frame h)

theorem authLoop_post (fuel : Nat) (s : St) (x : Ses) (rt : Option Auth) (h : Got S x s) :
    EPost (Got S) W (authLoop c fuel s x rt) := by
  induction fuel generalizing s x rt with
  | zero => exact k.weak h.1
  | succ fuel ih =>
  rw [authLoop]
  refine ite_post (fun _ => h) fun hauth => ?_  -- the server has left `authenticating`
  have h1 : S (some x) (({ s with auths := s.auths.tail } : St).log (.authCall x.schemeOpts rt)) :=
    k.quiet _ rfl (k.frame h.1 ⟨rfl, rfl, rfl⟩)
  have h2 := sendSession_post k (h.2.sid ▸ Sendable.credentials x (s.auths.headD .guest) (Decidable.of_not_not hauth)) h1
  exact guard (k.weak h1) fun _ => guard (k.weak h2) fun _ => (recvFromServer_post k h2).bind id fun _ => ih _ _ _

/-- the `if ses.State == SessionStateNegotiating { … }` block as `establish` runs it -/
theorem negotiateBlock_post {s : St} {x : Ses} (h : Got S x s) :
    RPost (Got S) W (if x.state = .negotiating then negotiateBlock c s x else (.got x, s)) := by
  refine ite_post (fun _ => ?_) fun _ => h
  unfold negotiateBlock
  have h1 : S (some x) (s.log (.selCall x.compOpts x.encOpts)) := k.quiet _ rfl h.1
  have h2 := sendSession_post k (h.2.sid ▸ Sendable.selection x) h1
  exact guard (k.weak h1) fun _ => guard (k.weak h2) fun _ => (recvFromServer_post k h2).bind id fun conf hc =>
    guard (k.confirmed conf hc.1).1  -- the confirmed options cannot be applied
      fun hok => recvFromServer_post k ((k.confirmed conf hc.1).2 (of_not_bnot hok))

/-- **the handshake keeps what its steps keep**: a session is returned in a state where the property
holds and that session has been adopted; an error is returned in a state where `W` holds; and there
is no panic. -/
theorem establish_post {s : St} (h : S none s) : EPost (Got S) W (establish c s) := by
  unfold establish
  have h2 := sendSession_post k .new h
  exact guard (k.weak h) fun _ => guard (k.weak h2) fun _ => (recvFromServer_post k h2).bind id fun x hx =>
    (negotiateBlock_post k hx).bind id fun x2 => authLoop_post k _ _ x2 none

theorem run_post (recvs : List Recv) (auths : List Auth) (sendOk : List Bool) (setEncOk : Bool) (enc0 : Opt)
    (h : S none { recvs, auths, sendOk, setEncOk, enc := enc0 }) :
    EPost (Got S) W ((run c recvs auths sendOk setEncOk enc0).res, (run c recvs auths sendOk setEncOk enc0).final) :=
  establish_post k h

end

theorem run_trace (c : Cfg) (recvs : List Recv) (auths : List Auth) (sendOk : List Bool) (setEncOk : Bool) (enc0 : Opt) :
    (run c recvs auths sendOk setEncOk enc0).trace.reverse = (run c recvs auths sendOk setEncOk enc0).final.trace :=
  List.reverse_reverse _

end LimeModel.ClientHs
