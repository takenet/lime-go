import LimeModel.WF
/-! `Doc.dec` in bind form, which is how the proofs read it; `Json.norm` on trees that are already normal. -/
namespace LimeModel
open Json

theorem dedupKeys_of_distinct {α} (kvs : List (Str × α)) (h : keysDistinct kvs = true) :
    dedupKeys kvs = kvs := by
  induction kvs with
  | nil => rfl
  | cons a t ih =>
    obtain ⟨k, v⟩ := a
    simp only [keysDistinct, Bool.and_eq_true, Bool.not_eq_true'] at h
    simp only [dedupKeys, h.1, Bool.false_eq_true, ↓reduceIte, ih h.2]

mutual
theorem Json.norm_of_isNorm : (j : Json) → j.isNorm = true → Json.norm j = j
  | .null, _ => rfl
  | .bool _, _ => rfl
  | .num _, _ => rfl
  | .str _, _ => rfl
  | .arr l, h => by
    simp only [Json.isNorm] at h
    simp only [Json.norm, Json.normList_of_isNorm l h]
  | .obj kvs, h => by
    simp only [Json.isNorm, Bool.and_eq_true] at h
    simp only [Json.norm, Json.normKvs_of_isNorm kvs h.2, dedupKeys_of_distinct kvs h.1]
theorem Json.normList_of_isNorm : (l : List Json) → Json.isNormList l = true → Json.normList l = l
  | [], _ => rfl
  | j :: t, h => by
    simp only [Json.isNormList, Bool.and_eq_true] at h
    simp only [Json.normList, Json.norm_of_isNorm j h.1, Json.normList_of_isNorm t h.2]
theorem Json.normKvs_of_isNorm : (kvs : List (Str × Json)) → Json.isNormKvs kvs = true → Json.normKvs kvs = kvs
  | [], _ => rfl
  | (k, v) :: t, h => by
    simp only [Json.isNormKvs, Bool.and_eq_true] at h
    simp only [Json.normKvs, Json.norm_of_isNorm v h.1, Json.normKvs_of_isNorm t h.2]
end

theorem Doc.enc_ne_null : (d : Doc) → Doc.enc d ≠ .null
  | .text _ => by rw [Doc.enc]; intro h; cases h
  | .json _ => by rw [Doc.enc]; intro h; cases h
  | .container _ _ => by rw [Doc.enc]; intro h; cases h
  | .collection _ _ _ => by rw [Doc.enc]; intro h; cases h
  | .ping => by rw [Doc.enc]; intro h; cases h

theorem keyMatch_self (k : Str) : keyMatch k k = true := by simp [keyMatch]

/-- The model writes `Doc.dec` with nested `match`es instead of `bind`: termination needs the equations of
`match h : rawLast …` and `match h : itemsField …`, which `bind` would not give. This is the same function in bind form. -/
theorem Doc.dec_eq (j : Json) (t : MT) : Doc.dec j t =
    match factoryFor t, j with
    | .text, .str s => .ok (.text s)
    | .json, .obj kvs => .ok (.json (dedupKeys (Json.normKvs kvs)))
    | .ping, .obj _ => .ok .ping
    | .container, .obj kvs =>
      (foldVals (ptrText parseMT) none (fieldVals cs!"type" kvs)).bind fun ot =>
      (Outcome.ofOption ot).bind fun t' =>
      (Outcome.ofOption (rawLast cs!"value" kvs)).bind fun v =>
      (Doc.dec v t').bind fun d => .ok (.container t' d)
    | .collection, .obj kvs =>
      (foldVals intoInt 0 (fieldVals cs!"total" kvs)).bind fun total =>
      (foldVals (ptrText parseMT) none (fieldVals cs!"itemType" kvs)).bind fun oit =>
      (itemsField kvs).bind fun items =>
      (Outcome.ofOption oit).bind fun it =>
      match items with
      | none => .ok (.collection total it none)
      | some l => (Doc.decList l it).bind fun ds => .ok (.collection total it (some ds))
    | _, _ => .err := by
  rw [Doc.dec.eq_def]
  cases factoryFor t <;> cases j <;> simp only []  -- leaves the container and the collection on an object
  · cases foldVals (ptrText parseMT) none (fieldVals cs!"type" _) with
    | ok ot =>
      cases ot with
      | none => rfl
      | some t' =>
        simp only [Outcome.bind, Outcome.ofOption]
        split
        · rename_i h; rw [h]; rfl
        · rename_i v h; rw [h]; simp only []; cases Doc.dec v t' <;> rfl
    | _ => rfl
  · cases foldVals intoInt 0 (fieldVals cs!"total" _) with
    | ok total =>
      cases foldVals (ptrText parseMT) none (fieldVals cs!"itemType" _) with
      | ok oit =>
        simp only [Outcome.bind]
        split
        · rename_i h; rw [h]
        · rename_i h; rw [h]
        · rename_i items h
          conv => rhs; rw [h]  -- on the left `h` is an argument of the `match h : itemsField …` itself
          simp only []
          cases oit with
          | none => rfl
          | some it =>
            simp only [Outcome.ofOption]
            cases items with
            | none => rfl
            | some l => simp only []; cases Doc.decList l it <;> rfl
      | _ => rfl
    | _ => rfl

theorem Doc.decList_cons {j : Json} (h : j ≠ .null) (rest : List Json) (t : MT) :
    Doc.decList (j :: rest) t = (Doc.dec j t).bind fun d => (Doc.decList rest t).bind fun ds => .ok (d :: ds) := by
  rw [Doc.decList]
  · cases Doc.dec j t <;> try rfl
    cases Doc.decList rest t <;> rfl
  · exact h

end LimeModel
