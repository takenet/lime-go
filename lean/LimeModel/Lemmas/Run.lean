/-!
Runs of a partial step function. The labelled models (`Pending`, `Finish`, `ServerLife`, `Chan`) each define
`runL : σ → List ι → Option σ` in the same way (the empty run stops; a step is followed by the rest of the
run); this is what they share.
-/
namespace LimeModel

/-- What every step preserves, every run preserves. -/
theorem run_preserves {σ ι : Type} {step : σ → ι → Option σ} {run : σ → List ι → Option σ}
    (nil : ∀ s, run s [] = some s) (cons : ∀ s l ls, run s (l :: ls) = (step s l).bind (run · ls))
    {P : σ → Prop} (hstep : ∀ s s1 l, P s → step s l = some s1 → P s1) :
    ∀ ls s s', P s → run s ls = some s' → P s'
  | [], s, s', h, hr => by rw [nil] at hr; cases hr; exact h
  | l :: ls, s, s', h, hr => by
    rw [cons] at hr
    cases hs : step s l with
    | none => simp [hs] at hr
    | some s1 => rw [hs] at hr; exact run_preserves nil cons hstep ls s1 s' (hstep s s1 l h hs) hr

end LimeModel
