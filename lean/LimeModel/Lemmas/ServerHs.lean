import LimeModel.ServerSpec
/-! Field-preservation and trace-shape lemmas for the server handshake model. -/
namespace LimeModel.ServerHs
open LimeModel LimeModel.ServerSpec

@[simp] theorem log_trace (s : St) (e : Ev) : (s.log e).trace = e :: s.trace := rfl
@[simp] theorem log_enc (s : St) (e) : (s.log e).enc = s.enc := rfl
@[simp] theorem log_state (s : St) (e) : (s.log e).state = s.state := rfl
@[simp] theorem log_connected (s : St) (e) : (s.log e).connected = s.connected := rfl
@[simp] theorem log_auths (s : St) (e) : (s.log e).auths = s.auths := rfl
@[simp] theorem log_regs (s : St) (e) : (s.log e).regs = s.regs := rfl
@[simp] theorem log_remote (s : St) (e) : (s.log e).remote = s.remote := rfl
@[simp] theorem setState_trace (s : St) (x) : (setState s x).trace = .setState x :: s.trace := rfl
@[simp] theorem setState_enc (s : St) (x) : (setState s x).enc = s.enc := rfl
@[simp] theorem setState_state (s : St) (x) : (setState s x).state = x := rfl
@[simp] theorem setState_connected (s : St) (x) : (setState s x).connected = s.connected := rfl
@[simp] theorem setRemote_trace (s : St) (n) : (setRemote s n).trace = s.trace := rfl
@[simp] theorem setRemote_enc (s : St) (n) : (setRemote s n).enc = s.enc := rfl
@[simp] theorem setRemote_state (s : St) (n) : (setRemote s n).state = s.state := rfl
@[simp] theorem setRemote_connected (s : St) (n) : (setRemote s n).connected = s.connected := rfl
@[simp] theorem callAuth_trace (s : St) (ses out) : (callAuth s ses out).trace =
    .authCall ses.from_.name ses.from_.domain ses.scheme ses.auth s.enc out :: s.trace := rfl
@[simp] theorem callAuth_enc (s : St) (a b) : (callAuth s a b).enc = s.enc := rfl
@[simp] theorem callAuth_state (s : St) (a b) : (callAuth s a b).state = s.state := rfl
@[simp] theorem callAuth_connected (s : St) (a b) : (callAuth s a b).connected = s.connected := rfl
@[simp] theorem callReg_trace (s : St) (ses res) : (callReg s ses res).trace = .regCall ses.from_ res :: s.trace := rfl
@[simp] theorem callReg_enc (s : St) (a b) : (callReg s a b).enc = s.enc := rfl
@[simp] theorem callReg_state (s : St) (a b) : (callReg s a b).state = s.state := rfl
@[simp] theorem callReg_connected (s : St) (a b) : (callReg s a b).connected = s.connected := rfl
@[simp] theorem closeT_trace (s : St) : (closeT s).trace = .close :: s.trace := rfl
@[simp] theorem closeT_enc (s : St) : (closeT s).enc = s.enc := rfl
@[simp] theorem closeT_state (s : St) : (closeT s).state = s.state := rfl
@[simp] theorem closeT_connected (s : St) : (closeT s).connected = false := rfl
@[simp] theorem markEof_trace (c : Cfg) (s : St) : (markEof c s).trace = s.trace := by
  unfold markEof; split <;> rfl
@[simp] theorem markEof_enc (c : Cfg) (s : St) : (markEof c s).enc = s.enc := by
  unfold markEof; split <;> rfl
@[simp] theorem markEof_state (c : Cfg) (s : St) : (markEof c s).state = s.state := by
  unfold markEof; split <;> rfl

@[simp] theorem obs_nil : obs [] = [] := rfl
@[simp] theorem obs_recv (r : Recv) (t : List Ev) : obs (.recv r :: t) = .recv r :: obs t := rfl
@[simp] theorem obs_emit (s : Ses) (e : Opt) (t : List Ev) : obs (.emit s e :: t) = .emit s e :: obs t := rfl
@[simp] theorem obs_auth (a b c d e f) (t : List Ev) : obs (.authCall a b c d e f :: t) = .authCall a b c d e f :: obs t := rfl
@[simp] theorem obs_reg (a b) (t : List Ev) : obs (.regCall a b :: t) = .regCall a b :: obs t := rfl
@[simp] theorem obs_setState (x) (t : List Ev) : obs (.setState x :: t) = obs t := rfl
@[simp] theorem obs_setEnc (x y) (t : List Ev) : obs (.setEnc x y :: t) = obs t := rfl
@[simp] theorem obs_setComp (x y) (t : List Ev) : obs (.setComp x y :: t) = obs t := rfl
@[simp] theorem obs_close (t : List Ev) : obs (.close :: t) = obs t := rfl

theorem phaseOf_cons {c : Cfg} {t : List Ev} {p : Phase} (h : phaseOf c t = some p) (e : Ev) :
    phaseOf c (e :: t) = stepPhase c p e := by
  simp only [phaseOf, h, Option.bind_some]

theorem phaseOf_cons_eq_some {c : Cfg} {e : Ev} {t : List Ev} {p' : Phase} (h : phaseOf c (e :: t) = some p') :
    ∃ p, phaseOf c t = some p ∧ stepPhase c p e = some p' :=
  Option.bind_eq_some_iff.mp h

theorem sendSession_cases (s : St) (e : Ses) :
    ((sendSession s e).1 = true ∧ (sendSession s e).2.trace = .emit e s.enc :: s.trace ∧
        s.connected = true ∧ s.state ≠ .finished ∧ s.state ≠ .failed) ∨
    ((sendSession s e).1 = false ∧ (sendSession s e).2.trace = s.trace) := by
  fun_cases sendSession s e
  case case1 | case2 | case5 => exact .inr ⟨rfl, rfl⟩
  case case3 hc hs _ | case4 hc hs _ _ => exact .inl ⟨rfl, rfl, by simpa using hc, not_or.mp hs⟩

@[simp] theorem sendSession_state (s : St) (e : Ses) : (sendSession s e).2.state = s.state := by
  fun_cases sendSession s e <;> rfl
@[simp] theorem sendSession_enc (s : St) (e : Ses) : (sendSession s e).2.enc = s.enc := by
  fun_cases sendSession s e <;> rfl
@[simp] theorem sendSession_connected (s : St) (e : Ses) : (sendSession s e).2.connected = s.connected := by
  fun_cases sendSession s e <;> rfl

theorem sendSession_sent {s : St} {e : Ses} (h : (sendSession s e).1 = true) :
    (sendSession s e).2.trace = .emit e s.enc :: s.trace := by
  rcases sendSession_cases s e with ⟨_, ht, _⟩ | ⟨h1, _⟩
  · exact ht
  · rw [h1] at h; cases h

theorem recvSession_cases (c : Cfg) (s : St) :
    (∃ x, (recvSession c s).1 = some x ∧ (recvSession c s).2.trace = .recv (.ses x) :: s.trace) ∨
    ((recvSession c s).1 = none ∧
      ((recvSession c s).2.trace = s.trace ∨ ∃ r, (∀ x, r ≠ .ses x) ∧ (recvSession c s).2.trace = .recv r :: s.trace)) := by
  fun_cases recvSession c s
  · exact .inr ⟨rfl, .inl rfl⟩
  · exact .inr ⟨rfl, .inl (markEof_trace c s)⟩
  · rename_i x r _
    fun_cases recvItem c s x r
    case case1 | case2 => exact .inl ⟨_, rfl, rfl⟩
    case case3 => exact .inr ⟨rfl, .inr ⟨.other, (fun _ h => nomatch h), rfl⟩⟩
    case case4 => exact .inr ⟨rfl, .inr ⟨.fail true, (fun _ h => nomatch h), markEof_trace c _⟩⟩
    case case5 => exact .inr ⟨rfl, .inr ⟨.fail false, (fun _ h => nomatch h), rfl⟩⟩

@[simp] theorem recvSession_state (c : Cfg) (s : St) : (recvSession c s).2.state = s.state := by
  fun_cases recvSession c s
  · rfl
  · exact markEof_state c s
  · rename_i x r _
    fun_cases recvItem c s x r
    case case4 => exact markEof_state c _
    all_goals rfl
@[simp] theorem recvSession_enc (c : Cfg) (s : St) : (recvSession c s).2.enc = s.enc := by
  fun_cases recvSession c s
  · rfl
  · exact markEof_enc c s
  · rename_i x r _
    fun_cases recvItem c s x r
    case case4 => exact markEof_enc c _
    all_goals rfl

theorem recvSession_sendSession_state (c : Cfg) (s : St) (e : Ses) :
    (recvSession c (sendSession s e).2).2.state = s.state := by
  rw [recvSession_state, sendSession_state]

theorem recvSession_some {c : Cfg} {s : St} {x : Ses} (h : (recvSession c s).1 = some x) :
    (recvSession c s).2.trace = .recv (.ses x) :: s.trace := by
  rcases recvSession_cases c s with ⟨y, hy, ht⟩ | ⟨hn, _⟩
  · cases hy.symm.trans h; exact ht
  · rw [hn] at h; cases h

theorem sendEstablished_state (c : Cfg) (s : St) (n : Node) (h : (sendEstablished c s n).1 = true) :
    (sendEstablished c s n).2.state = .established := by
  revert h
  fun_cases sendEstablished c s n <;> intro h
  · cases h
  · cases h
  · simp

theorem failSession_state (c : Cfg) (s : St) : (failSession c s).1 = true → (failSession c s).2.state = .failed := by
  fun_cases failSession c s
  · nofun
  · exact fun _ => rfl
@[simp] theorem failSession_enc (c : Cfg) (s : St) : (failSession c s).2.enc = s.enc := by
  fun_cases failSession c s
  · rfl
  · rw [closeT_enc, setState_enc, sendSession_enc]

theorem applyComp_cases (s : St) (x : Opt) :
    applyComp s x = (true, s) ∨ applyComp s x = (false, s.log (.setComp x false)) := by
  fun_cases applyComp s x
  · exact .inr rfl
  · exact .inl rfl

theorem applyEnc_cases (s : St) (e : Opt) :
    (applyEnc s e = (true, s) ∧ s.enc = e) ∨ applyEnc s e = (true, ({ s with enc := e }).log (.setEnc e true)) ∨
    applyEnc s e = (false, s.log (.setEnc e false)) := by
  fun_cases applyEnc s e
  · exact .inr (.inl rfl)
  · exact .inr (.inr rfl)
  · exact .inl ⟨rfl, Decidable.not_not.mp ‹_›⟩

theorem confirm_success {c : Cfg} {s : St} {a b : Opt} (ok : (confirm c s a b).1 = true) :
    (confirm c s a b).2.state = .negotiating ∧ (confirm c s a b).2.enc = b ∧
      (b ≠ [] → confirmedEnc (confirm c s a b).2.trace = some b) := by
  revert ok
  fun_cases confirm c s a b
  case case1 | case2 | case3 => nofun
  case case4 hg r2 ok2 r3 ok3 =>
    have hst : r2.2.state = .negotiating := (sendSession_state s _).trans (Decidable.not_not.mp (not_or.mp hg).2)
    have hc : b ≠ [] → confirmedEnc r2.2.trace = some b := fun hb => by
      rw [sendSession_sent (by simpa using ok2)]; exact if_pos ⟨rfl, hb, rfl⟩
    -- `confirmedEnc` does not read the `setComp` and `setEnc` events logged from here on
    have h3 : r3 = _ ∨ r3 = _ := applyComp_cases r2.2 a
    rcases h3 with h3 | h3 <;> rw [h3] at ok3 ⊢
    · rcases applyEnc_cases r2.2 b with ⟨h4, he⟩ | h4 | h4 <;> rw [h4]
      · exact fun _ => ⟨hst, he, hc⟩
      · exact fun _ => ⟨hst, rfl, hc⟩
      · nofun
    · exact absurd rfl ok3

end LimeModel.ServerHs
