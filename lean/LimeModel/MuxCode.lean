import LimeModel.Mux
import LimeModel.Generated
/-!
# The dispatch loop in the variant the source has on this run

`harness/cmd/facts/structure.go` reads the four `handleX` loops and the four `Match` methods of
handler.go off the syntax tree: `muxLoopFirstMatchBreak` says each loop is literally
`for _, h := range m.<kind>Handlers { if !h.Match(x) { continue }; if err := h.Handle(.., x, ..); err != nil { return <error> }; break }; return nil`,
`muxNilPredicateMatches` says each `Match` is `if h.predicate == nil { return true }; return h.predicate(x)`.
`scanV` is the loop with both as switches: without the `break` the scan goes on after a handler that
returned no error; without the nil check a handler without predicate is not taken to match. The
theorems of `Props/C20.lean` are about `scan` = `scanV true true`; `Props/CodeV/C20.lean` states them
for `dispatchCode`, the variant read from the source.
-/
namespace LimeModel.Mux

def Handler.matchesV {ε} (nilOk : Bool) (h : Handler ε) (e : ε) : Bool :=
  match h.pred with
  | none => nilOk
  | some p => p e

def scanV {ε} (brk nilOk : Bool) (e : ε) : List (Handler ε) → Nat → List Ev
  | [], _ => []
  | h :: t, i =>
    if h.matchesV nilOk e then
      .consult i true :: .invoke i (h.fails e) :: (if brk || h.fails e then [] else scanV brk nilOk e t (i + 1))
    else .consult i false :: scanV brk nilOk e t (i + 1)

theorem matchesV_true {ε} (h : Handler ε) (e : ε) : h.matchesV true e = h.matches e := rfl

theorem scanV_true {ε} (e : ε) (hs : List (Handler ε)) : ∀ i, scanV true true e hs i = scan e hs i := by
  induction hs with
  | nil => intro i; rfl
  | cons h t ih =>
    intro i
    simp only [scanV, scan, matchesV_true, Bool.true_or, ↓reduceIte, ih]

def codeBreaks : Bool := Generated.muxLoopFirstMatchBreak
def codeNilMatches : Bool := Generated.muxNilPredicateMatches

/-- `handleX` as the source has it -/
def dispatchCode {ε} (hs : List (Handler ε)) (e : ε) : List Ev × Bool :=
  let l := scanV codeBreaks codeNilMatches e hs 0
  (l, l.any (fun ev => match ev with | .invoke _ true => true | _ => false))

end LimeModel.Mux
