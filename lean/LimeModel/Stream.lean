/-!
# M3: the TCP byte stream (tcp_transport.go `ctxConn.Write` / `ctxConn.Read`, the stream decoder)

* `writeLoop` mirrors the retry loop of `ctxConn.Write` over a plan of what each `conn.Write` does.
* `Framing` abstracts a streaming value scanner (`json.Decoder`) by the three laws it has to obey;
  `recvFrames` is the buffered receive loop of `Receive` over an arbitrary fragmentation of the stream.
-/
namespace LimeModel.Stream

abbrev Bytes := List Nat

/-- what one call of the underlying `conn.Write(p)` does -/
inductive WriteEv
  | full                    -- writes all of `p`, returns nil
  | timeoutAfter (n : Nat)  -- writes `min n |p|` bytes and returns a temporary timeout error
  | failAfter (n : Nat)     -- writes `min n |p|` bytes and returns another error
  | ctxDone                 -- the write context is over before the call
  deriving Repr, DecidableEq

structure WriteRes where
  wire : Bytes      -- what reached the connection, in order
  ok : Bool         -- `Write` returned a nil error
  n : Nat           -- the byte count `Write` reported
  deriving Repr, DecidableEq

/-- `ctxConn.Write(b)`: after a short write that ended in a transient timeout the loop goes on with
the bytes not yet written (`b[written:]`). An exhausted plan means the connection takes the rest. -/
def writeLoop : Bytes → List WriteEv → Nat → WriteRes
  | b, [], w => { wire := b, ok := true, n := w + b.length }
  | b, .full :: _, w => { wire := b, ok := true, n := w + b.length }
  | _, .ctxDone :: _, w => { wire := [], ok := false, n := w }
  | b, .failAfter k :: _, w => { wire := b.take k, ok := false, n := w + min k b.length }
  | b, .timeoutAfter k :: rest, w =>
    let r := writeLoop (b.drop k) rest (w + min k b.length)
    { r with wire := b.take k ++ r.wire }

/-- a streaming value scanner: `complete buf = some k` when the first `k` bytes of `buf` are a
complete frame. `isFrame` describes the frames a sender puts on the wire. -/
structure Framing where
  isFrame : Bytes → Prop
  complete : Bytes → Option Nat
  /-- a frame followed by anything is recognised as exactly that frame -/
  frame_complete : ∀ f rest, isFrame f → complete (f ++ rest) = some f.length
  /-- a proper prefix of a frame is not yet complete -/
  prefix_incomplete : ∀ f (k : Nat), isFrame f → k < f.length → complete (f.take k) = none
  /-- frames are not empty -/
  frame_nonempty : ∀ f, isFrame f → f ≠ []
  /-- nothing buffered, nothing recognised -/
  empty_incomplete : complete [] = none

inductive RecvOut
  | frame (f : Bytes)
  | err
  deriving Repr, DecidableEq

/-- one `Receive`: take a complete frame from the buffer if there is one, else read the next chunk
(sizes from the fragmentation plan, at least 1, at most what the stream still holds; an exhausted
stream is the cut / EOF) and try again. Returns the result, the new buffer, the unread stream and the
rest of the plan. -/
def recvOne (complete : Bytes → Option Nat) : Nat → Bytes → Bytes → List Nat → RecvOut × Bytes × Bytes × List Nat
  | 0, buf, unread, plan => (.err, buf, unread, plan)
  | fuel + 1, buf, unread, plan =>
    match complete buf with
    | some k => (.frame (buf.take k), buf.drop k, unread, plan)
    | none =>
      match unread with
      | [] => (.err, buf, unread, plan)
      | _ =>
        let k := max 1 (min (plan.headD 1) unread.length)
        recvOne complete fuel (buf ++ unread.take k) (unread.drop k) plan.tail

/-- `n` successive `Receive` calls on a stream fragmented according to `plan` -/
def recvFrames (complete : Bytes → Option Nat) : Nat → Bytes → Bytes → List Nat → List RecvOut
  | 0, _, _, _ => []
  | n + 1, buf, unread, plan =>
    let r := recvOne complete (unread.length + 1) buf unread plan
    match r.1 with
    | .err => [.err]
    | .frame f => .frame f :: recvFrames complete n r.2.1 r.2.2.1 r.2.2.2

/-! ## Scanner framings

A left-to-right scanner is a state machine over bytes; `δ s c = none` means "the value ends with
this byte". Both the newline framing and the JSON value scanner of `json.Decoder` (as far as
top-level objects and arrays go: whitespace is skipped, brackets are counted outside strings, a
backslash inside a string protects the next byte) are of this form. -/

def scan {σ : Type} (δ : σ → Nat → Option σ) : σ → Bytes → Nat → Option Nat
  | _, [], _ => none
  | s, c :: t, i =>
    match δ s c with
    | none => some (i + 1)
    | some s' => scan δ s' t (i + 1)

inductive JState
  | start                                   -- before the value: whitespace is skipped
  | inside (depth : Nat) (str esc : Bool)   -- in the value: bracket depth, in a string, after a backslash
  | dead                                    -- not an object or array
  deriving Repr, DecidableEq

def isWs (c : Nat) : Bool := c == 32 || c == 9 || c == 10 || c == 13

def jsonδ : JState → Nat → Option JState
  | .start, c =>
    if isWs c then some .start
    else if c == 123 || c == 91 then some (.inside 1 false false)
    else some .dead
  | .dead, _ => some .dead
  | .inside d true true, _ => some (.inside d true false)
  | .inside d true false, c =>
    if c == 92 then some (.inside d true true)
    else if c == 34 then some (.inside d false false)
    else some (.inside d true false)
  | .inside d false _, c =>
    if c == 34 then some (.inside d true false)
    else if c == 123 || c == 91 then some (.inside (d + 1) false false)
    else if c == 125 || c == 93 then (if d ≤ 1 then none else some (.inside (d - 1) false false))
    else some (.inside d false false)

/-- the `complete` function the driver runs against the real `json.Decoder` -/
def jsonComplete (buf : Bytes) : Option Nat := scan jsonδ .start buf 0

end LimeModel.Stream
