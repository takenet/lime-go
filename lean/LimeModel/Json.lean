import LimeModel.Basic
/-!
# JSON trees and the generic behaviour of `encoding/json` over structs

Bytes ↔ tree (escaping, UTF-8, number syntax) is `encoding/json`'s job and is trusted; the model
starts from the tree. Objects keep their members in order (duplicates possible, as on the wire).
Numbers keep their literal text.
-/
namespace LimeModel

/-- A JSON number: an integer literal (`-?[0-9]+`, by value) or any other literal (by text).
Literal text ↔ value is part of the trusted bytes ↔ tree layer. -/
inductive JNum where
  | int (i : Int)
  | other (text : Str)
  deriving Repr, DecidableEq

inductive Json where
  | null
  | bool (b : Bool)
  | num (n : JNum)
  | str (s : Str)
  | arr (l : List Json)
  | obj (kvs : List (Str × Json))
  deriving Repr

namespace Json

/-- `encoding/json`'s key folding: ASCII letters to upper case, plus the two non-ASCII runes
whose simple case folding lands in ASCII (U+017F long s, U+212A Kelvin sign). -/
def foldChar (c : Char) : Char :=
  if 'a' ≤ c ∧ c ≤ 'z' then Char.ofNat (c.toNat - 32)
  else if c = Char.ofNat 0x17F then 'S'
  else if c = Char.ofNat 0x212A then 'K'
  else c

def foldKey (s : Str) : Str := s.map foldChar

/-- Does the object key `k` select the struct field whose JSON name is `field`? -/
def keyMatch (field k : Str) : Bool := foldKey k == foldKey field

/-- All values whose key selects `field`, in member order. -/
def fieldVals (field : Str) : List (Str × Json) → List Json
  | [] => []
  | (k, v) :: t => if keyMatch field k then v :: fieldVals field t else fieldVals field t

theorem fieldVals_append (f : Str) (a b : List (Str × Json)) :
    fieldVals f (a ++ b) = fieldVals f a ++ fieldVals f b := by
  induction a with
  | nil => rfl
  | cons h t ih => obtain ⟨k, v⟩ := h; simp only [List.cons_append, fieldVals]; split <;> simp [ih]

theorem key_of_mem_fieldVals {f : Str} {kvs : List (Str × Json)} {v : Json}
    (h : v ∈ fieldVals f kvs) : ∃ k, (k, v) ∈ kvs := by
  fun_induction fieldVals f kvs with
  | case1 => cases h
  | case2 k w t _ ih =>
    cases h with
    | head => exact ⟨k, .head _⟩
    | tail _ h' => exact (ih h').imp fun _ => .tail _
  | case3 k w t _ ih => exact (ih h).imp fun _ => .tail _

theorem sizeOf_lt_of_mem_fieldVals {f : Str} {kvs : List (Str × Json)} {v : Json}
    (h : v ∈ fieldVals f kvs) : sizeOf v < sizeOf kvs :=
  let ⟨k, hk⟩ := key_of_mem_fieldVals h
  Nat.lt_trans (by rw [Prod.mk.sizeOf_spec]; omega) (List.sizeOf_lt_of_mem hk)

/-- The last value assigned to a pointer / scalar field wins. -/
def lastVal (field : Str) (kvs : List (Str × Json)) : Option Json := (fieldVals field kvs).getLast?

theorem sizeOf_lt_of_lastVal {f : Str} {kvs : List (Str × Json)} {v : Json}
    (h : lastVal f kvs = some v) : sizeOf v < sizeOf kvs := by
  unfold lastVal at h
  exact sizeOf_lt_of_mem_fieldVals (List.mem_of_getLast? h)

theorem sizeOf_lt_of_mem {l : List Json} {v : Json} (h : v ∈ l) : sizeOf v < sizeOf l :=
  List.sizeOf_lt_of_mem h

theorem lt_sizeOf_obj {n : Nat} {kvs : List (Str × Json)} (h : n < sizeOf kvs) : n < sizeOf (Json.obj kvs) := by
  rw [Json.obj.sizeOf_spec]; exact Nat.lt_add_left 1 h

/-- `encoding/json` decoding a JSON value into a Go `string` (or a plain string type without
unmarshalling methods): a string is taken, `null` leaves the destination as it is, anything else
is a type error. `cur` is the destination's current value. -/
def intoString (cur : Str) : Json → Outcome Str
  | .str s => .ok s
  | .null => .ok cur
  | _ => .err

/-- into a Go `int` (64 bit): integer literal in range (what `strconv.ParseInt` accepts), `null`
keeps the current value, anything else is an error -/
def intoInt (cur : Int) : Json → Outcome Int
  | .num (.int i) => if -9223372036854775808 ≤ i ∧ i ≤ 9223372036854775807 then .ok i else .err
  | .null => .ok cur
  | _ => .err

/-- fold the assignments of all occurrences of a field, in member order -/
def foldVals {α} (assign : α → Json → Outcome α) : α → List Json → Outcome α
  | a, [] => .ok a
  | a, v :: t => (assign a v).bind (fun a' => foldVals assign a' t)

@[simp] theorem foldVals_nil {α} (assign : α → Json → Outcome α) (a : α) : foldVals assign a [] = .ok a := rfl
@[simp] theorem foldVals_single {α} (assign : α → Json → Outcome α) (a : α) (v : Json) :
    foldVals assign a [v] = assign a v := by
  simp only [foldVals]; cases assign a v <;> rfl

theorem foldVals_sat {α} {P : α → Prop} {assign : α → Json → Outcome α} :
    ∀ {vals : List Json} {a : α}, (∀ a, ∀ v ∈ vals, P a → (assign a v).Sat P) → P a → (foldVals assign a vals).Sat P
  | [], _, _, ha => ha
  | v :: _, a, h, ha => (h a v (List.mem_cons_self ..) ha).bind fun _ ha' =>
      foldVals_sat (fun a v hv => h a v (List.mem_cons_of_mem _ hv)) ha'

/-- a `*json.RawMessage` field: the last occurrence wins; `null` makes the pointer nil -/
def rawLast (field : Str) (kvs : List (Str × Json)) : Option Json :=
  match lastVal field kvs with
  | some .null => none
  | some v => some v
  | none => none

theorem sizeOf_lt_of_rawLast {f : Str} {kvs : List (Str × Json)} {v : Json}
    (h : rawLast f kvs = some v) : sizeOf v < sizeOf kvs := by
  unfold rawLast at h
  split at h
  · cases h
  · rename_i w hw; cases h; exact sizeOf_lt_of_lastVal hw
  · cases h

/-- a pointer to a type with `UnmarshalText` (`*Node`, `*MediaType`, enum pointers, `*URI`):
a string is parsed (a parse error is an error), `null` makes the pointer nil, anything else is a
type error -/
def ptrText {α} (parse : Str → Option α) (_cur : Option α) : Json → Outcome (Option α)
  | .str s => match parse s with
    | some a => .ok (some a)
    | none => .err
  | .null => .ok none
  | _ => .err

/-- a pointer to a plain string type (`*SessionEncryption`, `*AuthenticationScheme`, `*CommandStatus`) -/
def ptrString (_cur : Option Str) : Json → Outcome (Option Str)
  | .str s => .ok (some s)
  | .null => .ok none
  | _ => .err

/-- element of a `map[string]T` for a plain string type `T`: `null` gives the zero value -/
def elemString : Json → Outcome Str
  | .str s => .ok s
  | .null => .ok []
  | _ => .err

/-- elements of a `[]T` (plain string type) decoded over the slice's previous contents `old`:
element `i` is decoded into the existing element when there is one, so `null` keeps it -/
def elemsOver : List Str → List Json → Outcome (List Str)
  | _, [] => .ok []
  | old, v :: t =>
    (intoString (old.headD []) v).bind (fun s =>
    (elemsOver old.tail t).bind (fun r => .ok (s :: r)))

/-- a slice of a plain string type: an array is decoded over the current contents, `null` makes
the slice nil, anything else is an error -/
def sliceString (cur : Option (List Str)) : Json → Outcome (Option (List Str))
  | .arr l => (elemsOver (cur.getD []) l).bind (fun x => .ok (some x))
  | .null => .ok none
  | _ => .err

end Json
end LimeModel
