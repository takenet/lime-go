import LimeModel.Generated
/-!
# M5: blocking operations and their context (tcp_transport.go `ctxConn.Read` / `ctxConn.Write`,
the `select`-based operations, the WebSocket helper-goroutine pattern)

Time is a natural number (any unit). A context may have a deadline and may be cancelled at some
moment. The peer is described by the moment at which the underlying operation could complete
(`none`: never — a silent peer, or one that does not read with full buffers).
-/
namespace LimeModel.Timed

structure Ctx where
  deadline : Option Nat := none
  cancelAt : Option Nat := none
  deriving Repr, DecidableEq

/-- `ctx.Err() != nil` at time `t` -/
def Ctx.done (c : Ctx) (t : Nat) : Bool :=
  (match c.deadline with | some d => decide (d ≤ t) | none => false) ||
  (match c.cancelAt with | some a => decide (a ≤ t) | none => false)

inductive Res | ok | ctxErr
  deriving Repr, DecidableEq

/-- the I/O deadline one iteration sets: `min(now + poll, ctx deadline)` -/
def ioDeadline (poll : Nat) (c : Ctx) (now : Nat) : Nat :=
  match c.deadline with
  | some d => min (now + poll) d
  | none => now + poll

/-- `ctxConn.Read` / `ctxConn.Write`: check the context; set the I/O deadline; do the operation; on
a timeout go round again. Returns the time of return and the result. -/
def pollLoop (poll : Nat) (c : Ctx) (readyAt : Option Nat) : Nat → Nat → Nat × Res
  | 0, now => (now, .ctxErr)
  | fuel + 1, now =>
    if c.done now then (now, .ctxErr)
    else
      let d := ioDeadline poll c now
      match readyAt with
      | some r => if r < d then (max now r, .ok) else pollLoop poll c readyAt fuel d
      | none => pollLoop poll c readyAt fuel d

/-- the moment a context ends, if it does -/
def Ctx.endTime (c : Ctx) : Option Nat :=
  match c.deadline, c.cancelAt with
  | some d, some a => some (min d a)
  | some d, none => some d
  | none, some a => some a
  | none, none => none

/-- a `select` between `ctx.Done()` and the operation (in-process Receive / Send / Accept, the TCP
and WebSocket Accept, `ProcessCommand`, `receiveSession` on an established channel) -/
def selectOp (c : Ctx) (readyAt : Option Nat) (now : Nat) : Option (Nat × Res) :=
  match readyAt, c.endTime with
  | some r, some e => if max now r < max now e then some (max now r, .ok) else some (max now e, .ctxErr)
  | some r, none => some (max now r, .ok)
  | none, some e => some (max now e, .ctxErr)
  | none, none => none            -- blocks for ever: no context end, no peer

/-- the WebSocket pattern: a helper goroutine does the blocking operation, the caller selects on the
context and then forces a deadline on the connection and waits for the helper. `interrupts` says
whether forcing the deadline reaches the operation in progress (`true`: it is set on the underlying
network connection; `false`: only a field of the WebSocket library is set, the tree before the repair) -/
def helperOp (interrupts : Bool) (c : Ctx) (readyAt : Option Nat) (now : Nat) : Option (Nat × Res) :=
  match selectOp c readyAt now with
  | some (t, .ok) => some (t, .ok)
  | some (t, .ctxErr) =>
    if interrupts then some (t, .ctxErr)
    else match readyAt with
      | some r => some (max t r, .ctxErr)    -- returns only when the operation itself completes
      | none => none                          -- never
  | none => none

/-- read from the source on this run: the WebSocket `Send` forces the deadline onto the underlying
connection when its context ends -/
def wsInterrupts : Bool := Generated.wsForcesUnderlyingDeadline

end LimeModel.Timed
