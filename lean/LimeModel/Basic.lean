/-!
# Common vocabulary of the model

Text is `List Char` inside the model (proofs about lists are simple; the driver converts at the
boundary). `Outcome` is what a Go call can do as far as the properties care: return a value, return
an error, or panic.
-/
open Lean in
/-- `cs!"abc"` is the character list `['a', 'b', 'c']`, expanded at elaboration time, so that no
proof depends on evaluating `String.toList` on a literal. -/
macro:max "cs!" s:str : term => do
  let cs : Array (TSyntax `term) :=
    (s.getString.toList.map (fun c => (⟨(Syntax.mkCharLit c).raw⟩ : TSyntax `term))).toArray
  `([$cs,*])

namespace LimeModel

abbrev Str := List Char

/-- Result of a Go call: value, `error`, or a run-time panic. -/
inductive Outcome (α : Type) where
  | ok (a : α)
  | err
  | panic
  deriving Repr, DecidableEq

namespace Outcome

@[inline] def bind {α β} (x : Outcome α) (f : α → Outcome β) : Outcome β :=
  match x with
  | .ok a => f a
  | .err => .err
  | .panic => .panic

instance : Monad Outcome where
  pure := .ok
  bind := bind

@[simp] theorem bind_ok {α β} (a : α) (f : α → Outcome β) : (Outcome.ok a >>= f) = f a := rfl
@[simp] theorem bind_err {α β} (f : α → Outcome β) : ((Outcome.err : Outcome α) >>= f) = .err := rfl
@[simp] theorem bind_panic {α β} (f : α → Outcome β) : ((Outcome.panic : Outcome α) >>= f) = .panic := rfl
@[simp] theorem pure_eq {α} (a : α) : (pure a : Outcome α) = .ok a := rfl

def isOk {α} : Outcome α → Bool | .ok _ => true | _ => false
def isPanic {α} : Outcome α → Bool | .panic => true | _ => false

/-- Go `if x == nil { return err }` on an optional value. -/
def ofOption {α} : Option α → Outcome α
  | some a => .ok a
  | none => .err

@[simp] theorem ofOption_some {α} (a : α) : ofOption (some a) = .ok a := rfl
@[simp] theorem ofOption_none {α} : ofOption (none : Option α) = .err := rfl

theorem bind_eq_ok {α β} {x : Outcome α} {f : α → Outcome β} {b : β} :
    (x >>= f) = .ok b ↔ ∃ a, x = .ok a ∧ f a = .ok b := by
  cases x <;> simp [Bind.bind, bind]

theorem bind_ne_panic {α β} {x : Outcome α} {f : α → Outcome β}
    (hx : x ≠ .panic) (hf : ∀ a, f a ≠ .panic) : (x >>= f) ≠ .panic := by
  cases x <;> simp_all [Bind.bind, bind]

/-- `x` does not panic, and a value it returns satisfies `P`: the one shape every fact about the
decoders on *arbitrary* input has (`P := fun _ => True` is panic-freedom alone). -/
def Sat {α} (P : α → Prop) : Outcome α → Prop
  | .ok a => P a
  | .err => True
  | .panic => False

@[simp] theorem sat_ok {α} {P : α → Prop} {a : α} : (Outcome.ok a).Sat P ↔ P a := Iff.rfl
@[simp] theorem sat_err {α} {P : α → Prop} : (Outcome.err : Outcome α).Sat P := trivial
@[simp] theorem sat_panic {α} {P : α → Prop} : ¬ (Outcome.panic : Outcome α).Sat P := id

theorem Sat.ne_panic {α} {P : α → Prop} {x : Outcome α} (h : x.Sat P) : x ≠ .panic := by
  rintro rfl; exact h

theorem Sat.of_ok {α} {P : α → Prop} {x : Outcome α} (h : x.Sat P) {a : α} (e : x = .ok a) : P a := by
  subst e; exact h

theorem Sat.imp {α} {P Q : α → Prop} {x : Outcome α} (h : x.Sat P) (hpq : ∀ a, P a → Q a) : x.Sat Q := by
  cases x with
  | ok a => exact hpq a h
  | err => trivial
  | panic => exact h

theorem Sat.and_eq_ok {α} {P : α → Prop} {x : Outcome α} (h : x.Sat P) : x.Sat (fun a => x = .ok a ∧ P a) := by
  cases x with
  | ok a => exact ⟨rfl, h⟩
  | err => trivial
  | panic => exact h

theorem Sat.bind {α β} {P : α → Prop} {Q : β → Prop} {x : Outcome α} {f : α → Outcome β}
    (hx : x.Sat P) (hf : ∀ a, P a → (f a).Sat Q) : (x.bind f).Sat Q := by
  cases x with
  | ok a => exact hf a hx
  | err => trivial
  | panic => exact hx

theorem ofOption_sat {α} (o : Option α) : (ofOption o).Sat (fun a => o = some a) := by
  cases o <;> simp

theorem sat_ite {α} {P : α → Prop} {c : Prop} [Decidable c] {x y : Outcome α}
    (hx : c → x.Sat P) (hy : ¬c → y.Sat P) : (if c then x else y).Sat P := by
  split
  · exact hx ‹_›
  · exact hy ‹_›

end Outcome

/-- `mapM` over a list, stopping at the first error / panic. -/
def mapMO {α β} (f : α → Outcome β) : List α → Outcome (List β)
  | [] => .ok []
  | a :: t => do
    let b ← f a
    let bs ← mapMO f t
    pure (b :: bs)

end LimeModel
