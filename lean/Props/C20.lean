import LimeModel.Mux
/-!
# C20 — each inbound envelope is dispatched to exactly the first matching handler

All statements quantify over every handler table (any number of handlers, any predicates,
`none` predicates anywhere), every envelope and every handler outcome.
-/
namespace Props.C20
open LimeModel.Mux

variable {ε : Type}

/-- invocations recorded in a log -/
def invocations : List Ev → List (Nat × Bool)
  | [] => []
  | .invoke i e :: t => (i, e) :: invocations t
  | .consult _ _ :: t => invocations t

/-- predicate consultations recorded in a log -/
def consulted : List Ev → List Nat
  | [] => []
  | .consult i _ :: t => i :: consulted t
  | .invoke _ _ :: t => consulted t

theorem invocations_consults (is : List Nat) (l : List Ev) :
    invocations (is.map (.consult · false) ++ l) = invocations l := by
  induction is with
  | nil => rfl
  | cons i is ih => exact ih

theorem consulted_consults (is : List Nat) (l : List Ev) :
    consulted (is.map (.consult · false) ++ l) = is ++ consulted l := by
  induction is with
  | nil => rfl
  | cons i is ih => exact congrArg (i :: ·) ih

/-- The log of the dispatch loop, whole: either no handler matches and each is consulted in turn, or
the table splits at its first matching handler `h`, the handlers before it are consulted in turn, and
`h` is consulted and invoked. -/
theorem scan_cases (e : ε) (hs : List (Handler ε)) (i : Nat) :
    ((∀ h ∈ hs, h.matches e = false) ∧ firstMatch e hs i = none ∧
      scan e hs i = (List.range' i hs.length).map (.consult · false)) ∨
    ∃ pre h post, hs = pre ++ h :: post ∧ (∀ x ∈ pre, x.matches e = false) ∧ h.matches e = true ∧
      firstMatch e hs i = some (i + pre.length) ∧
      scan e hs i = (List.range' i pre.length).map (.consult · false) ++
        [.consult (i + pre.length) true, .invoke (i + pre.length) (h.fails e)] := by
  fun_induction scan e hs i with
  | case1 => exact .inl ⟨nofun, rfl, rfl⟩
  | case2 a t i hm => exact .inr ⟨[], a, t, rfl, nofun, hm, if_pos hm, rfl⟩
  | case3 a t i hm ih =>
    have hm' : a.matches e = false := Bool.eq_false_iff.2 hm
    have e1 : firstMatch e (a :: t) i = firstMatch e t (i + 1) := if_neg hm
    rcases ih with ⟨hno, hf, hsc⟩ | ⟨pre, h, post, rfl, hpre, hh, hf, hsc⟩
    · exact .inl ⟨List.forall_mem_cons.2 ⟨hm', hno⟩, e1 ▸ hf, by rw [hsc]; rfl⟩
    · -- `i + 1 + pre.length` is `i + (a :: pre).length`
      rw [Nat.add_right_comm i 1] at hf hsc
      exact .inr ⟨a :: pre, h, post, rfl, List.forall_mem_cons.2 ⟨hm', hpre⟩, hh, e1 ▸ hf, by rw [hsc]; rfl⟩

theorem firstMatch_cases (e : ε) (hs : List (Handler ε)) (i : Nat) :
    ((∀ h ∈ hs, h.matches e = false) ∧ firstMatch e hs i = none) ∨
    ∃ pre h post, hs = pre ++ h :: post ∧ (∀ x ∈ pre, x.matches e = false) ∧ h.matches e = true ∧
      firstMatch e hs i = some (i + pre.length) :=
  (scan_cases e hs i).imp (fun ⟨h1, h2, _⟩ => ⟨h1, h2⟩)
    fun ⟨pre, h, post, h1, h2, h3, h4, _⟩ => ⟨pre, h, post, h1, h2, h3, h4⟩

theorem dispatch_cases (hs : List (Handler ε)) (e : ε) :
    ((∀ h ∈ hs, h.matches e = false) ∧ firstMatch e hs 0 = none ∧ invocations (dispatch hs e).1 = [] ∧
      consulted (dispatch hs e).1 = List.range hs.length ∧ (dispatch hs e).2 = false) ∨
    ∃ pre h post, hs = pre ++ h :: post ∧ (∀ x ∈ pre, x.matches e = false) ∧ h.matches e = true ∧
      firstMatch e hs 0 = some pre.length ∧ invocations (dispatch hs e).1 = [(pre.length, h.fails e)] ∧
      consulted (dispatch hs e).1 = List.range (pre.length + 1) ∧ (dispatch hs e).2 = h.fails e := by
  simp only [dispatch]
  rcases scan_cases e hs 0 with ⟨hno, hf, hsc⟩ | ⟨pre, h, post, rfl, hpre, hh, hf, hsc⟩
  · rw [← List.append_nil (List.map ..)] at hsc
    refine .inl ⟨hno, hf, ?_, ?_, ?_⟩ <;> rw [hsc]
    · exact invocations_consults _ []
    · rw [consulted_consults, List.range_eq_range']; exact List.append_nil _
    · simp
  · rw [Nat.zero_add] at hf hsc
    refine .inr ⟨pre, h, post, rfl, hpre, hh, hf, ?_, ?_, ?_⟩ <;> rw [hsc]
    · exact invocations_consults _ _
    · rw [consulted_consults, List.range_eq_range', List.range'_concat, Nat.one_mul, Nat.zero_add]; rfl
    · cases hfe : h.fails e <;> simp

/-- **C20 (exactly once)**: one dispatch invokes at most one handler, and invokes one exactly
when some handler of the kind matches. -/
theorem exactly_once (hs : List (Handler ε)) (e : ε) :
    (invocations (dispatch hs e).1).length ≤ 1 ∧
    ((invocations (dispatch hs e).1).length = 1 ↔ ∃ h ∈ hs, h.matches e = true) := by
  rcases dispatch_cases hs e with ⟨hno, _, hi, _⟩ | ⟨pre, h, post, rfl, _, hh, _, hi, _⟩ <;> rw [hi]
  · simpa using fun h hh => hno h hh
  · exact ⟨Nat.le_refl 1, fun _ => ⟨h, by simp, hh⟩, fun _ => rfl⟩

/-- **C20 (first match)**: the invoked handler is the earliest registered one whose predicate
accepts the envelope (a missing predicate accepts everything), and the error flag of the dispatch
is that handler's outcome. -/
theorem dispatch_first_match (hs : List (Handler ε)) (e : ε) (j : Nat) (err : Bool)
    (h : (j, err) ∈ invocations (dispatch hs e).1) :
    (∃ hd, hs[j]? = some hd ∧ hd.matches e = true ∧ hd.fails e = err) ∧
    ∀ k, k < j → ∃ hk, hs[k]? = some hk ∧ hk.matches e = false := by
  rcases dispatch_cases hs e with ⟨_, _, hi, _⟩ | ⟨pre, hd, post, rfl, hpre, hh, _, hi, _⟩ <;> rw [hi] at h
  · cases h
  · obtain ⟨rfl, rfl⟩ : j = pre.length ∧ err = hd.fails e := by simpa using h
    exact ⟨⟨hd, by simp, hh, rfl⟩, fun k hk =>
      ⟨pre[k], by simp [List.getElem?_append_left hk], hpre _ (List.getElem_mem hk)⟩⟩

/-- **C20 (scan stops)**: predicates of handlers registered after the invoked one are not
consulted, and every consulted predicate is consulted once, in registration order. -/
theorem scan_stops (hs : List (Handler ε)) (e : ε) :
    consulted (dispatch hs e).1 =
      match firstMatch e hs 0 with
      | none => List.range hs.length
      | some j => List.range (j + 1) := by
  rcases dispatch_cases hs e with ⟨_, hf, _, hc, _⟩ | ⟨pre, hd, post, rfl, _, _, hf, _, hc, _⟩ <;> rw [hf, hc]

/-- **C20 (no match drops and continues)**: when no handler of the kind matches, nothing is
invoked and the dispatch reports no error, so the listen loop goes on. -/
theorem no_match_drops (hs : List (Handler ε)) (e : ε)
    (h : ∀ hd ∈ hs, hd.matches e = false) :
    invocations (dispatch hs e).1 = [] ∧ (dispatch hs e).2 = false := by
  rcases dispatch_cases hs e with ⟨_, _, hi, _, he⟩ | ⟨pre, hd, post, rfl, _, hh, _⟩
  · exact ⟨hi, he⟩
  · rw [h hd (by simp)] at hh; cases hh

theorem dispatch_err_iff (hs : List (Handler ε)) (e : ε) :
    (dispatch hs e).2 = true ↔ ∃ i, (i, true) ∈ invocations (dispatch hs e).1 := by
  rcases dispatch_cases hs e with ⟨_, _, hi, _, he⟩ | ⟨pre, hd, post, rfl, _, _, _, hi, _, he⟩ <;>
    simp [hi, he]

/-- **C20 (handler error stops the loop)**: the listen loop processes envelopes in order,
reports an error exactly when some dispatched handler failed, and the failing dispatch is the last
one in its log: nothing after it is dispatched. -/
theorem handler_error_stops_loop (t : Table ε) (envs : List (Kind × ε)) :
    let r := listen t envs
    (r.2 = true → ∃ k l, r.1.getLast? = some (k, l) ∧ ∃ i, (i, true) ∈ invocations l) ∧
    (∀ k l, (k, l) ∈ r.1.dropLast → ∀ i, (i, true) ∉ invocations l) ∧
    (r.2 = false → r.1.length = envs.length ∧ ∀ k l, (k, l) ∈ r.1 → ∀ i, (i, true) ∉ invocations l) ∧
    r.1.length ≤ envs.length := by
  fun_induction listen t envs with
  | case1 => simp
  | case2 k e rest d hd =>
    exact ⟨fun _ => ⟨k, _, rfl, (dispatch_err_iff _ _).1 hd⟩, by simp, by simp, by simp⟩
  | case3 k e rest d hd r ih =>
    obtain ⟨ih1, ih2, ih3, ih4⟩ := ih
    simp only [d, r] at hd ⊢
    have hno : ∀ i, (i, true) ∉ invocations (dispatch (t.get k) e).1 := fun i hi => hd ((dispatch_err_iff _ _).2 ⟨i, hi⟩)
    refine ⟨fun hr => ?_, fun k' l' hmem i => ?_, fun hr => ?_, Nat.succ_le_succ ih4⟩
    · obtain ⟨k', l', hl, hx⟩ := ih1 hr
      exact ⟨k', l', by rw [List.getLast?_cons]; simp [hl], hx⟩
    · cases hrest : (listen t rest).1 with
      | nil => simp [hrest] at hmem
      | cons b bs =>
        rw [hrest, List.dropLast_cons_cons] at hmem
        rcases List.mem_cons.1 hmem with h | hx
        · cases h; exact hno i
        · exact ih2 k' l' (by rw [hrest]; exact hx) i
    · obtain ⟨hl, hall⟩ := ih3 hr
      refine ⟨by simp [hl], fun k' l' hmem i => ?_⟩
      rcases List.mem_cons.1 hmem with h | hx
      · cases h; exact hno i
      · exact hall k' l' hx i

/-- Non-vacuity: a table with a non-matching handler, a `nil`-predicate handler and a later
catch-all; the second is invoked, the third is never consulted. -/
example :
    let hs : List (Handler Nat) :=
      [⟨some (· == 7), fun _ => false⟩, ⟨none, fun _ => true⟩, ⟨some (fun _ => true), fun _ => false⟩]
    dispatch hs 3 = ([.consult 0 false, .consult 1 true, .invoke 1 true], true) := by decide

end Props.C20
