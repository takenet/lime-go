import LimeModel.Stream
/-!
# C12 — the TCP transport preserves the envelope stream under fragmentation and stalls

The write loop (`write_loop_exact`), and the receive loop over any `Framing` that obeys the scanner
laws: `recvOne_cut` is one receive on a stream of which a tail has not arrived, and
`stream_reassembly` (nothing is missing) and `cut_stream_safe` (cut anywhere) follow from it by
induction over the frames. `scannerFraming`: every left-to-right scanner obeys the laws;
`jsonFraming` is the one the driver runs.
-/
namespace Props.C12
open LimeModel.Stream

/-- **C12 (write loop)**: for every byte string and every write plan (short writes of every length,
any number of transient timeouts, a hard failure or the end of the context anywhere) the bytes put
on the connection are a prefix of the buffer, each byte once, and `Write` reports success only if
all of it was written. -/
theorem write_loop_exact (b : Bytes) (plan : List WriteEv) (w : Nat) :
    (∃ rest, b = (writeLoop b plan w).wire ++ rest) ∧
    ((writeLoop b plan w).ok = true → (writeLoop b plan w).wire = b) ∧
    (writeLoop b plan w).n = w + (writeLoop b plan w).wire.length := by
  fun_induction writeLoop b plan w with
  | case1 | case2 | case3 => simp
  | case4 b k =>
    exact ⟨⟨b.drop k, (List.take_append_drop k b).symm⟩, nofun, by simp only [List.length_take]⟩
  | case5 b k rest w r ih =>
    obtain ⟨⟨x, hx⟩, h2, h3⟩ := ih
    refine ⟨⟨x, ?_⟩, fun hok => ?_, ?_⟩
    · rw [List.append_assoc, ← hx, List.take_append_drop]
    · rw [h2 hok, List.take_append_drop]
    · simp only [r, h3, List.length_append, List.length_take, Nat.add_assoc]

theorem buf_cases (buf unread f rest : Bytes) (h : buf ++ unread = f ++ rest) :
    (∃ x, buf = f ++ x ∧ rest = x ++ unread) ∨ (buf.length < f.length ∧ buf = f.take buf.length) := by
  rcases List.append_eq_append_iff.mp h with ⟨a, rfl, rfl⟩ | ⟨a, rfl, rfl⟩
  · -- `f = buf ++ a`
    cases a with
    | nil => exact .inl ⟨[], by simp, by simp⟩
    | cons c a => exact .inr ⟨by simp, by simp⟩
  · exact .inl ⟨a, rfl, rfl⟩

/-- One receive on a stream of which `tail` has not arrived (yet, or ever): it returns the head
frame and leaves the rest, or an error — nothing else; and the error only because bytes of the
frame are missing, given fuel for one read per unread byte. -/
theorem recvOne_cut (F : Framing) (f rest : Bytes) (hf : F.isFrame f) :
    ∀ fuel buf unread plan tail, buf ++ unread ++ tail = f ++ rest →
    (∃ buf' unread' plan', recvOne F.complete fuel buf unread plan = (.frame f, buf', unread', plan') ∧
        buf' ++ unread' ++ tail = rest) ∨
    ((recvOne F.complete fuel buf unread plan).1 = .err ∧ (unread.length < fuel → tail ≠ [])) := by
  intro fuel
  induction fuel with
  | zero => intro buf unread plan tail _; exact .inr ⟨rfl, fun h => absurd h (Nat.not_lt_zero _)⟩
  | succ n ih =>
    intro buf unread plan tail heq
    rw [List.append_assoc] at heq
    rcases buf_cases buf (unread ++ tail) f rest heq with ⟨x, rfl, rfl⟩ | ⟨hlt, hb⟩
    · -- the buffer holds the whole frame
      refine .inl ⟨x, unread, plan, ?_, List.append_assoc ..⟩
      simp only [recvOne, F.frame_complete f x hf, List.take_left, List.drop_left]
    · -- the buffer is a proper prefix of the frame: not complete, read on
      have hc : F.complete buf = none := hb ▸ F.prefix_incomplete f buf.length hf hlt
      cases unread with
      | nil =>
        refine .inr ⟨by rw [recvOne, hc], fun _ ht => ?_⟩
        -- were nothing missing, the buffer would be all of `f ++ rest`, not shorter than `f`
        rw [ht, List.append_nil, List.append_nil] at heq
        rw [heq, List.length_append] at hlt
        exact absurd hlt (Nat.not_lt.2 (Nat.le_add_right ..))
      | cons a t =>
        simp only [recvOne, hc]
        have hk : 1 ≤ max 1 (min (plan.headD 1) (a :: t).length) := Nat.le_max_left ..
        generalize max 1 (min (plan.headD 1) (a :: t).length) = k at hk
        refine (ih (buf ++ (a :: t).take k) ((a :: t).drop k) plan.tail tail
          (by rw [List.append_assoc buf, List.take_append_drop, List.append_assoc]; exact heq)).imp_right
            fun ⟨h1, h2⟩ => ⟨h1, fun hfuel => h2 ?_⟩
        -- a read takes at least one byte, so the fuel still covers what is unread
        have hread : (a :: t).length - k ≤ t.length := Nat.sub_le_sub_left hk (t.length + 1)
        have hleft : t.length < n := Nat.lt_of_succ_lt_succ hfuel
        rw [List.length_drop]
        exact Nat.lt_of_le_of_lt hread hleft

/-- **C12 (reassembly)**: whatever the fragmentation plan, `fs.length` receives on the stream that
consists of the frames `fs` return exactly `fs`, each intact, in order. -/
theorem stream_reassembly (F : Framing) (fs : List Bytes) (hfs : ∀ f ∈ fs, F.isFrame f) :
    ∀ buf unread plan, buf ++ unread = fs.flatten →
    recvFrames F.complete fs.length buf unread plan = fs.map RecvOut.frame := by
  induction fs with
  | nil => intro buf unread plan _; rfl
  | cons f rest ih =>
    intro buf unread plan heq
    have hf := hfs f (List.mem_cons_self ..)
    simp only [List.flatten_cons] at heq
    -- nothing is missing (`tail = []`) and the fuel suffices: no error
    rcases recvOne_cut F f rest.flatten hf (unread.length + 1) buf unread plan [] (by simpa using heq) with
      ⟨buf', unread', plan', h1, h2⟩ | ⟨_, h2⟩
    · simp only [List.length_cons, recvFrames, h1, List.map_cons]
      rw [ih (fun g hg => hfs g (List.mem_cons_of_mem _ hg)) buf' unread' plan' (by simpa using h2)]
    · exact absurd rfl (h2 (Nat.lt_succ_self _))

/-- the frames handed out by a run of receives (errors dropped) -/
def framesOf : List RecvOut → List Bytes
  | [] => []
  | .frame f :: t => f :: framesOf t
  | .err :: t => framesOf t

/-- **C12 (cut stream)**: if the stream is cut anywhere (what is delivered is a prefix of the frame
sequence), any number of receives return a prefix of the frames — each intact, in order, none twice,
none invented. (That nothing follows the first error is how `recvFrames` is defined.) -/
theorem cut_stream_safe (F : Framing) (fs : List Bytes) (hfs : ∀ f ∈ fs, F.isFrame f) :
    ∀ n buf unread plan tail, buf ++ unread ++ tail = fs.flatten →
    ∃ k, framesOf (recvFrames F.complete n buf unread plan) = fs.take k := by
  induction fs with
  | nil =>
    intro n buf unread plan tail heq
    simp only [List.flatten_nil, List.append_eq_nil_iff] at heq
    obtain ⟨⟨rfl, rfl⟩, rfl⟩ := heq
    refine ⟨0, ?_⟩
    cases n with
    | zero => rfl
    | succ m =>
      simp only [recvFrames, recvOne, F.empty_incomplete, framesOf, List.take_zero]
  | cons f rest ih =>
    intro n buf unread plan tail heq
    have hf := hfs f (List.mem_cons_self ..)
    cases n with
    | zero => exact ⟨0, rfl⟩
    | succ m =>
      simp only [List.flatten_cons] at heq
      rcases recvOne_cut F f rest.flatten hf (unread.length + 1) buf unread plan tail heq with
        ⟨buf', unread', plan', h1, h2⟩ | ⟨h1, _⟩
      · obtain ⟨k, hk⟩ := ih (fun g hg => hfs g (List.mem_cons_of_mem _ hg)) m buf' unread' plan' tail h2
        refine ⟨k + 1, ?_⟩
        simp only [recvFrames, h1, framesOf, hk, List.take_succ_cons]
      · refine ⟨0, ?_⟩
        simp only [recvFrames, h1, framesOf, List.take_zero]

theorem scan_bounds {σ} (δ : σ → Nat → Option σ) (a : Bytes) (s : σ) (i j : Nat)
    (h : scan δ s a i = some j) : i < j ∧ j ≤ i + a.length := by
  fun_induction scan δ s a i with
  -- no byte left; the value ends with this byte; the scan goes on (`i` its position)
  | case1 => cases h
  | case2 => cases h; exact ⟨Nat.lt_succ_self _, Nat.add_le_add_left (Nat.le_add_left 1 _) _⟩
  | case3 _ _ _ i _ _ ih => exact ⟨Nat.lt_of_succ_lt (ih h).1, Nat.add_right_comm i 1 _ ▸ (ih h).2⟩

theorem scan_append {σ} (δ : σ → Nat → Option σ) (a b : Bytes) (s : σ) (i j : Nat)
    (h : scan δ s a i = some j) : scan δ s (a ++ b) i = some j := by
  fun_induction scan δ s a i with
  | case1 => cases h
  | case2 _ _ _ _ hd => simpa only [List.cons_append, scan, hd] using h
  | case3 _ _ _ _ _ hd ih => simpa only [List.cons_append, scan, hd] using ih h

/-- the framing of a scanner: a frame is a byte string the scanner accepts exactly at its end -/
def scannerFraming {σ} (δ : σ → Nat → Option σ) (s0 : σ) : Framing where
  isFrame f := scan δ s0 f 0 = some f.length
  complete buf := scan δ s0 buf 0
  frame_complete := by
    intro f rest hf
    exact scan_append δ f rest s0 0 _ hf
  prefix_incomplete := by
    intro f k hf hk
    cases hs : scan δ s0 (f.take k) 0 with
    | none => rfl
    | some j =>
      -- a scan that accepts the prefix at `j ≤ k` accepts the whole frame at `j`, which is not `f.length`
      have hb := scan_bounds δ _ _ _ _ hs
      have := scan_append δ (f.take k) (f.drop k) s0 0 j hs
      rw [List.take_append_drop, hf] at this
      simp only [List.length_take, Option.some.injEq] at this hb
      omega
  frame_nonempty := by
    intro f hf hnil
    subst hnil
    simp [scan] at hf
  empty_incomplete := rfl

/-- the JSON value framing used by the driver against the real `json.Decoder` -/
def jsonFraming : Framing := scannerFraming jsonδ .start

/-- what the driver executes is the `complete` of a lawful framing, so `stream_reassembly` and
`cut_stream_safe` apply to every run of the driver's `frames` mode -/
theorem driver_framing : jsonFraming.complete = jsonComplete := rfl

/-- `{"a":"}\""}` preceded by a newline is a frame; the `}` inside the string does not end it -/
example : jsonFraming.isFrame [10, 123, 34, 97, 34, 58, 34, 125, 92, 34, 34, 125] := by
  show scan jsonδ .start _ 0 = some _
  decide

def nl : Nat := 10

def lineComplete : Bytes → Nat → Option Nat
  | [], _ => none
  | c :: t, i => if c = nl then some (i + 1) else lineComplete t (i + 1)

theorem lineComplete_spec (a rest : Bytes) (i : Nat) (h : nl ∉ a) :
    lineComplete (a ++ nl :: rest) i = some (i + a.length + 1) := by
  induction a generalizing i with
  | nil => simp [lineComplete]
  | cons c t ih =>
    have hc : c ≠ nl := fun e => h (by simp [e])
    have ht : nl ∉ t := fun m => h (List.mem_cons_of_mem _ m)
    simp only [List.cons_append, lineComplete, hc, ↓reduceIte, ih (i + 1) ht, List.length_cons]
    rw [Nat.add_right_comm i 1]; rfl

theorem lineComplete_none (a : Bytes) (i : Nat) (h : nl ∉ a) : lineComplete a i = none := by
  induction a generalizing i with
  | nil => rfl
  | cons c t ih =>
    have hc : c ≠ nl := fun e => h (by simp [e])
    have ht : nl ∉ t := fun m => h (List.mem_cons_of_mem _ m)
    simp only [lineComplete, hc, ↓reduceIte, ih (i + 1) ht]

/-- The laws are satisfiable: newline-terminated frames (no newline inside, newline at the end). -/
def lineFraming : Framing where
  isFrame f := ∃ a, nl ∉ a ∧ f = a ++ [nl]
  complete buf := lineComplete buf 0
  frame_complete := by
    rintro f rest ⟨a, ha, rfl⟩
    have := lineComplete_spec a rest 0 ha
    simpa using this
  prefix_incomplete := by
    rintro f k ⟨a, ha, rfl⟩ hk
    simp only [List.length_append, List.length_singleton] at hk
    have : (a ++ [nl]).take k = a.take k := by
      rw [List.take_append_of_le_length (by omega)]
    rw [this]
    exact lineComplete_none _ 0 (fun hm => ha (List.mem_of_mem_take hm))
  frame_nonempty := by
    rintro f ⟨a, _, rfl⟩; simp
  empty_incomplete := rfl

/-- Non-vacuity: two lines, delivered byte by byte with the second one cut, reassemble to the first
line and an error. -/
example : recvFrames lineFraming.complete 3 [] [1, 2, nl, 3] [1, 1, 1, 1] = [.frame [1, 2, nl], .err] := by decide

/-- a short write of 2 bytes with a transient timeout: each byte reaches the wire once -/
example : (writeLoop [1, 2, 3, 4] [.timeoutAfter 2] 0).wire = [1, 2, 3, 4] := by decide

end Props.C12
