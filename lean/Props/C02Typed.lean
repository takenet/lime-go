import Props.C02Stable
/-!
# C02, second half, for the typed decoders

`json.Unmarshal(b, &Message{})` and its four siblings are told the kind instead of discriminating
it, so they accept two shapes the receive path rejects: a request without `uri` and a response
without `status`. `Envelope.wfT` is `Envelope.wf` relaxed by exactly these; the round trip holds
for it through the typed decoder, every typed accept lands in it, hence the typed decoders are
stable under re-encoding on every input.
-/
namespace Props.C02
open LimeModel LimeModel.Json
open Props.C01

/-- **C01 for the typed decoders**: every envelope in the relaxed grammar encodes and its typed decoder
gives it back -/
theorem typed_roundtrip (U : Str → Option Str) (e : Envelope) (h : e.wfT U = true) :
    ∃ j, e.encode = .ok j ∧ decodeTyped U e.kind j = .ok e :=
  let ⟨j, h1, h2, _⟩ := roundtrip U e h
  ⟨j, h1, h2⟩

/-- whatever a typed `populate` accepts from a raw struct that the decoder filled is, in normal form,
in the relaxed grammar -/
theorem populate_wfT (U : Str → Option Str) {r : Raw} (g : RawGood U r) (k : Kind) (e : Envelope)
    (h : populate k r = .ok e) : e.norm.wfT U = true ∧ e.kind = k :=
  have ⟨hk, hw⟩ := (populate_sat U k r).of_ok h
  ⟨(hw g).1, hk⟩

/-- **C02 (stable under re-encoding), typed decoders**: whatever `json.Unmarshal` into one of the five
envelope types accepts — from any JSON tree — can be encoded again, and the same typed decoder accepts
that encoding and yields the same envelope in normal form, which encodes to the same tree. -/
theorem accepted_reencodes_typed (U : Str → Option Str) (hU : UIdem U) (k : Kind) (j : Json) (e : Envelope)
    (h : decodeTyped U k j = .ok e) :
    ∃ j', e.encode = .ok j' ∧ decodeTyped U k j' = .ok e.norm ∧ e.norm.encode = .ok j' :=
  have ⟨hk, hw⟩ := (decodeTyped_sat U k j).of_ok h
  let ⟨j', h1, h2, h3, _⟩ := reencodes U e (hw hU)
  ⟨j', h1, hk ▸ h2, h3⟩

/-- Non-vacuity: a request without `uri` is accepted by the typed decoder only, and is covered. -/
example : decodeTyped (fun s => some s) .request (.obj [(cs!"method", .str cs!"get")]) =
      .ok (.request ⟨⟨{}, cs!"get", none, none⟩, none⟩) ∧
    decodeAny (fun s => some s) (.obj [(cs!"method", .str cs!"get")]) = .err := ⟨rfl, rfl⟩

end Props.C02
