import Props.C05Conserve
/-!
# C05: the response stream is an order-preserving selection of what arrived

`stream_sublist_of_taken` read from `init`: the whole stream is a sublist of the consumed prefix of the
inbound sequence — no response is surfaced that did not arrive, none twice, and the order of arrival is kept.
-/
namespace Props.C05
open LimeModel.Pending

/-- **C05 (stream fidelity)**: from the initial state, the stream is a sublist of the consumed prefix of
the inbound response sequence. -/
theorem c05_stream_sublist (inc : List Resp) (ls : List Lbl) (s : S) (hr : runL true (init inc) ls = some s) :
    ∃ taken, inc = taken ++ s.incoming ∧ s.stream.Sublist taken := by
  obtain ⟨taken, more, ht, hm, hsub⟩ := stream_sublist_of_taken ls (init inc) s hr
  exact ⟨taken, ht, by rw [hm]; exact hsub⟩

/-- non-vacuity: a run that surfaces one unmatched response and hands one matched response to its call -/
example : ((runL true (init [⟨9, 1⟩, ⟨7, 2⟩]) [.spawn 0 7, .register 0, .send 0 true, .rcvLookup, .rcvLookup, .rcvHandoff, .take 0]).map
    fun s => (s.stream, s.incoming, (s.caller 0).pc)) = some ([⟨9, 1⟩], [], .cleanup (.resp ⟨7, 2⟩)) := by decide

end Props.C05
