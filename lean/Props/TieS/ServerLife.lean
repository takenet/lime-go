import LimeModel.ServerLife
/-! Structural tie (DESIGN.md 2.2), in a module of its own so that a construct that disappears from the
source breaks the properties that rest on it and no other. -/
namespace Props.TieStruct
open LimeModel

/-- C18: `ListenAndServe` reports the server-closed error by the server's own context -/
theorem serverlife_repaired : ServerLife.repaired = true := by decide

end Props.TieStruct
