import LimeModel.ClientLife
/-! Structural tie (DESIGN.md 2.2), in a module of its own so that a construct that disappears from the
source breaks the properties that rest on it and no other. -/
namespace Props.TieStruct
open LimeModel

/-- C19: the client's receiver closes the transport when a receive fails and when a session
envelope leaves the client established -/
theorem clientlife_repaired : ClientLife.repaired = ClientLife.Fix.all := by decide

end Props.TieStruct
