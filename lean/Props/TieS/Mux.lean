import LimeModel.MuxCode
/-! Structural tie (DESIGN.md 2.2), in a module of its own so that a construct that disappears from the
source breaks the properties that rest on it and no other. -/
namespace Props.TieStruct
open LimeModel

/-- C20: the four `handleX` loops skip non-matching handlers, return a handler's error, and `break`
after the first handler they invoke -/
theorem mux_loop_first_match_break : Mux.codeBreaks = true := by decide

/-- C20: the four built-in `Match` methods accept everything when no predicate was given -/
theorem mux_nil_predicate_matches : Mux.codeNilMatches = true := by decide

/-- hence the dispatch the source has is the dispatch the C20 theorems are about -/
theorem dispatchCode_eq {ε} (hs : List (Mux.Handler ε)) (e : ε) : Mux.dispatchCode hs e = Mux.dispatch hs e := by
  unfold Mux.dispatchCode Mux.dispatch
  rw [mux_loop_first_match_break, mux_nil_predicate_matches, Mux.scanV_true]
  rfl

end Props.TieStruct
