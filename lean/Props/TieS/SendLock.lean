import LimeModel.Generated
/-! Structural tie (DESIGN.md 2.2), in a module of its own so that a construct that disappears from the
source breaks the properties that rest on it and no other. -/
namespace Props.TieStruct
open LimeModel

/-- C13: `sendSession` writes under the send lock, so the session envelope of a finishing or failing
end is one atomic write among the data envelopes (the `callerSend` step of `Finish`) -/
theorem send_session_locked : Generated.sendSessionUnderSendMu = true := by decide

end Props.TieStruct
