import LimeModel.Generated
/-! Structural tie (DESIGN.md 2.2), in a module of its own so that a construct that disappears from the
source breaks the properties that rest on it and no other. -/
namespace Props.TieStruct
open LimeModel

/-- C16: `Receive` re-arms the read budget by assignment from `ReadLimit` after each envelope, as
`ReadLimit.recv` starts every envelope with the full budget -/
theorem read_budget_rearmed : Generated.readBudgetRearmed = true := by decide

end Props.TieStruct
