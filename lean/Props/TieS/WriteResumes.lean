import LimeModel.Generated
/-! Structural tie (DESIGN.md 2.2), in a module of its own so that a construct that disappears from the
source breaks the properties that rest on it and no other. -/
namespace Props.TieStruct
open LimeModel

/-- C12 (and C04, which rests on it): `ctxConn.Write` resumes a short write with the rest of its
buffer, as `Stream.writeLoop` does with `b.drop k` -/
theorem write_resumes : Generated.writeResumesAfterShortWrite = true := by decide

end Props.TieStruct
