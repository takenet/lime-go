import LimeModel.Finish
/-! Structural tie (DESIGN.md 2.2), in a module of its own so that a construct that disappears from the
source breaks the properties that rest on it and no other. -/
namespace Props.TieStruct
open LimeModel

/-- C13: `receiveSession` takes a pending session envelope in the terminal states -/
theorem finish_repaired : Finish.repaired = true := by decide

end Props.TieStruct
