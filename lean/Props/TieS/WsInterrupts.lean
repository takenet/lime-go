import LimeModel.Timed
/-! Structural tie (DESIGN.md 2.2), in a module of its own so that a construct that disappears from the
source breaks the properties that rest on it and no other. -/
namespace Props.TieStruct
open LimeModel

/-- C15: the WebSocket `Send` forces its context's end onto the underlying connection -/
theorem ws_interrupts : Timed.wsInterrupts = true := by decide

end Props.TieStruct
