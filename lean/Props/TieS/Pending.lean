import LimeModel.Pending
/-! Structural tie (DESIGN.md 2.2), in a module of its own so that a construct that disappears from the
source breaks the properties that rest on it and no other. -/
namespace Props.TieStruct
open LimeModel

/-- C05: `trySubmitCommandResult` looks up and deletes in one critical section and the deferred
clean-up of `processCommand` deletes only its own entry -/
theorem pending_repaired : Pending.repaired = true := by decide

end Props.TieStruct
