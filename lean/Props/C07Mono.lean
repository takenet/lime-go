import Props.HsInv
/-! # C07 (state never moves backwards) -/
namespace Props.C07
open LimeModel LimeModel.ServerHs LimeModel.ServerSpec

/-- **C07 (state never moves backwards)**: in every run of the server handshake the values given to
`setState` are non-decreasing in the `SessionState.Step` order — so the panic in `setStateWLock` is
unreachable on the server. -/
theorem state_monotone (c : Cfg) (recvs : List Recv) (auths : List AuthOut) (regs : List (Option Node))
    (sendOk : List Bool) (setEncOk : Bool) (enc0 : Opt) :
    monoRev (run c recvs auths regs sendOk setEncOk enc0).trace.reverse = true :=
  have ⟨_, h, _⟩ := Hs.run_inv c recvs auths regs sendOk setEncOk enc0
  (Bool.and_eq_true_iff.mp h.mono).2

end Props.C07
