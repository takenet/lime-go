import LimeModel.Life
import Props.HsInv
import Props.C03
/-!
# C06 — data envelopes flow only while the session is established

Send side and inbound streams (`LimeModel.Life`): the theorems hold for every sequence of life-cycle
operations — any interleaving of application sends and arriving envelopes with any sequence of state
changes, closes and peer-gone events, hence with every stage of either role's handshake and
teardown. State and connectedness are functions of the trace, and every operation logs an event
they admit (`Admits`, `good_cons`, `Inv.log`).

Receive side during the server handshake (`namespace Server`): a fact about the protocol automaton
(`accepted_after`) applied to the observable trace of the run.
-/
namespace Props.C06
open LimeModel LimeModel.Life
open LimeModel.ServerHs (SState)

def isTerminalEv : Ev → Bool
  | .setState x => terminal x
  | _ => false

/-- newest first: no data event is newer than a terminal `setState` -/
def silentRev : List Ev → Bool
  | [] => true
  | e :: t => (!isData e || !t.any isTerminalEv) && silentRev t

/-- The two checkers on a trace, and what ties them together: after a terminal state was
entered the state stays at step 5 or above, so it is never `established` (step 3) again. -/
structure Good (t : List Ev) : Prop where
  ok : okRev t = true
  silent : silentRev t = true
  term : t.any isTerminalEv = true → 5 ≤ (stateOf t).step

def Admits (st : SState) (conn : Bool) : Ev → Prop
  | .emit _ | .deliver _ => st = .established ∧ conn = true
  | .sendErr _ => st ≠ .established ∨ conn = false
  | .setState x => st.step ≤ x.step
  | _ => True

theorem terminal_step (x : SState) (h : terminal x = true) : 5 ≤ x.step := by
  revert h; cases x <;> decide

theorem good_cons {t : List Ev} {e : Ev} (h : Good t) (ha : Admits (stateOf t) (connOf t) e) : Good (e :: t) := by
  -- `established` is step 3: no terminal state was entered before a data event
  have quiet : stateOf t = .established → t.any isTerminalEv = false := fun he =>
    Bool.eq_false_iff.2 fun hany => by have := h.term hany; rw [he] at this; exact absurd this (by decide)
  cases e with
  | setState x =>
    refine { h with term := fun hany => ?_ }
    simp only [List.any_cons, isTerminalEv, Bool.or_eq_true] at hany
    exact hany.elim (terminal_step x) fun ht => Nat.le_trans (h.term ht) ha
  | emit k | deliver k =>
    refine { h with ok := ?_, silent := ?_ }
    · simp only [okRev, ha.1, ha.2, h.ok, beq_self_eq_true, Bool.and_self]
    · simp only [silentRev, quiet ha.1, h.silent, Bool.not_false, Bool.or_true, Bool.and_self]
  | sendErr k => exact { h with ok := by simpa [okRev, h.ok, Admits] using ha }
  | _ => exact { h with }

structure Inv (s : L) : Prop where
  state : s.state = stateOf s.trace
  conn : s.connected = connOf s.trace
  good : Good s.trace

theorem inv_init : Inv {} :=
  { state := rfl, conn := rfl, good := { ok := rfl, silent := rfl, term := by simp } }

theorem Inv.log {s : L} (h : Inv s) (s' : L) (e : Ev) (ha : Admits s.state s.connected e)
    (ht : s'.trace = e :: s.trace) (hs : s'.state = stateOf (e :: s.trace))
    (hc : s'.connected = connOf (e :: s.trace)) : Inv s' :=
  { state := ht ▸ hs, conn := ht ▸ hc, good := ht ▸ good_cons h.good (h.state ▸ h.conn ▸ ha) }

theorem setState_inv (s : L) (x : SState) (h : Inv s) : Inv (Life.setState s x) := by
  fun_cases Life.setState s x with
  | case1 => exact h.log _ (.refused x) trivial rfl h.state h.conn
  | case2 hge | case3 hge | case4 hge => exact h.log _ (.setState x) (Nat.le_of_not_lt hge) rfl rfl h.conn

theorem send_inv (s : L) (k : Life.Kind) (h : Inv s) : Inv (Life.send s k) := by
  fun_cases Life.send s k with
  | case1 hc => exact h.log _ (.sendErr k) (.inr (by simpa using hc)) rfl h.state h.conn
  | case2 _ hs => exact h.log _ (.sendErr k) (.inl hs) rfl h.state h.conn
  | case3 hc hs => exact h.log _ (.emit k) ⟨by simpa using hs, by simpa using hc⟩ rfl h.state h.conn

theorem step_inv (s : L) (o : Op) (h : Inv s) : Inv (step s o) := by
  fun_cases step s o with
  | case1 x => exact setState_inv s x h
  | case2 => exact h.log _ .gone trivial rfl h.state rfl
  | case3 => exact h.log _ .close trivial rfl h.state rfl
  | case4 k => exact send_inv s k h
  | case5 k hr =>
    simp only [L.receiving, L.established, Bool.and_eq_true, beq_iff_eq] at hr
    exact h.log _ (.deliver k) hr.2 rfl h.state h.conn
  | case6 k => exact h.log _ (.held k) trivial rfl h.state h.conn
  | case7 x cl _ s1 hcl =>
    -- the client's receiver hands the session envelope over and adopts its state: two events
    simp only [Bool.and_eq_true, decide_eq_true_eq] at hcl
    exact (h.log s1 (.sesToApp x) trivial rfl h.state h.conn).log _ (.setState x) hcl.2 rfl rfl h.conn
  | case8 x => exact h.log _ (.sesToApp x) trivial rfl h.state h.conn
  | case9 x => exact h.log _ (.sesHeld x) trivial rfl h.state h.conn

theorem foldl_inv (ops : List Op) (s : L) (h : Inv s) : Inv (ops.foldl step s) :=
  List.foldlRecOn ops step h fun s h o _ => step_inv s o h

theorem run_inv (ops : List Op) : Inv (run ops) := foldl_inv ops {} inv_init

/-- **C06 (send side, inbound streams)**: every data envelope written to the wire or pushed to an
inbound stream was written / pushed while the state was `established` on a connected transport, and
every send in any other situation returned an error and wrote nothing. -/
theorem data_only_while_established (ops : List Op) : okRev (run ops).trace = true :=
  (run_inv ops).good.ok

/-- **C06 (after teardown)**: once `finished` or `failed` was entered nothing is written to the wire
or pushed to an inbound stream any more, whatever the application and the peer do. -/
theorem after_terminal_silent (ops : List Op) : silentRev (run ops).trace = true :=
  (run_inv ops).good.silent

theorem okRev_tail (a : Ev) (t : List Ev) (h : okRev (a :: t) = true) : okRev t = true := by
  cases a with
  | emit | deliver | sendErr => exact (Bool.and_eq_true_iff.1 h).2
  | _ => exact h

theorem est_has_event (t : List Ev) (h : stateOf t = .established) : Ev.setState .established ∈ t := by
  induction t with
  | nil => cases h
  | cons e t ih =>
    cases e with
    | setState x => exact h ▸ List.mem_cons_self ..
    | _ => exact List.mem_cons_of_mem _ (ih h)

/-- **C06 (before establishment)**: every data envelope written or delivered is preceded by the
event of entering `established`. -/
theorem data_needs_established_event (ops : List Op) (newer older : List Ev) (e : Ev)
    (h : (run ops).trace = newer ++ e :: older) (hd : isData e = true) : Ev.setState .established ∈ older := by
  have hok := data_only_while_established ops
  rw [h] at hok
  clear h
  induction newer with
  | nil =>
    cases e with
    | emit k | deliver k =>
      simp only [List.nil_append, okRev, Bool.and_eq_true, beq_iff_eq] at hok
      exact est_has_event _ hok.1.1
    | _ => cases hd
  | cons a n ih => exact ih (okRev_tail a _ hok)

/-- **C06 (send guard)**: a send in any state other than `established`, or on a transport that is
not connected, returns an error and writes nothing. -/
theorem send_guard (s : L) (k : Life.Kind) (h : s.state ≠ .established ∨ s.connected = false) :
    (Life.send s k).trace = .sendErr k :: s.trace := by
  unfold Life.send
  rcases h with h | h
  · split
    · rfl
    · simp [L.log]
  · simp [h, L.log]

/-- and in the established state on a connected transport it writes the envelope -/
theorem send_established (s : L) (k : Life.Kind) (h1 : s.state = .established) (h2 : s.connected = true) :
    (Life.send s k).trace = .emit k :: s.trace := by
  unfold Life.send; simp [h1, h2, L.log]

/-- Non-vacuity: sends before, during and after an established session. -/
example : (run [.send .msg, .setState .authenticating, .send .req, .setState .established, .send .msg,
      .arrive .ntf, .setState .finished, .send .msg, .arrive .msg]).trace.reverse =
    [.sendErr .msg, .setState .authenticating, .sendErr .req, .setState .established, .emit .msg,
      .deliver .ntf, .setState .finished, .sendErr .msg, .held .msg] := by decide

namespace Server
open LimeModel.ServerHs LimeModel.ServerSpec

theorem nonses_ends (c : Cfg) (r : Recv) (hr : ∀ x, r ≠ .ses x) (q p : Phase)
    (h : stepPhase c q (.recv r) = some p) : p = .ended := by
  cases r with
  | ses x => exact absurd rfl (hr x)
  | _ =>
    -- only the phases that await an input accept one, and a non-session input ends the exchange
    cases q with
    | start | awaitSel | awaitAuth => exact (Option.some.inj h).symm
    | authed x out => cases out <;> cases h
    | _ => cases h

theorem accepted_after (c : Cfg) (l : List ServerHs.Ev) : ∀ newer p, phaseOf c (newer ++ l) = some p →
    ∃ q, phaseOf c l = some q ∧ (q = .ended → newer = []) := by
  intro newer
  induction newer with
  | nil => intro p h; exact ⟨p, h, fun _ => rfl⟩
  | cons e n ih =>
    intro p h
    obtain ⟨p', hp', hstep⟩ := phaseOf_cons_eq_some (t := n ++ l) h
    obtain ⟨q, hq, hfin⟩ := ih p' hp'
    refine ⟨q, hq, fun he => ?_⟩
    subst he
    obtain rfl := hfin rfl
    rw [List.nil_append, hq] at hp'
    cases hp'
    -- no event is accepted in phase `ended`
    cases e <;> cases hstep

/-- **C06 (receive side, server)**: if the server handshake consumes an input that is not a session
envelope (a message, notification or command smuggled in before establishment, undecodable bytes, a
dropped connection), that input is the last observable event of the run — no envelope is emitted,
no `Authenticate` / `Register` callback runs after it — and `EstablishSession` returns an error.
With C14 (`failed_handshake_released`, `callbacks_only_when_established`) the connection is then
closed and neither serving callback is invoked; the model has no inbound stream before
establishment, the receiver being started by `setState established` only (`Life`). -/
theorem nonsession_input_aborts_server (c : Cfg) (recvs : List Recv) (auths : List AuthOut)
    (regs : List (Option Node)) (sendOk : List Bool) (setEncOk : Bool) (enc0 : Opt)
    (r : Recv) (hr : ∀ x, r ≠ .ses x) (newer older : List ServerHs.Ev)
    (h : obs (ServerHs.run c recvs auths regs sendOk setEncOk enc0).trace.reverse = newer ++ .recv r :: older) :
    newer = [] ∧ (ServerHs.run c recvs auths regs sendOk setEncOk enc0).ok = false := by
  obtain ⟨p, ⟨hp, _⟩, hne⟩ := Props.Hs.run_inv c recvs auths regs sendOk setEncOk enc0
  rw [h] at hp
  obtain ⟨q, hq, hfin⟩ := accepted_after c _ newer p hp
  obtain ⟨q', _, hstep⟩ := phaseOf_cons_eq_some hq
  obtain rfl := nonses_ends c r hr q' q hstep
  obtain rfl := hfin rfl
  rw [List.nil_append, hq] at hp
  cases hp
  exact ⟨rfl, Bool.eq_false_iff.2 fun hok => (hne hok).2.2 rfl⟩

/-- Non-vacuity: a message injected in place of the authentication envelope. -/
example : (ServerHs.run Props.C03.demoCfg [.ses { state := .new }, .other] [.role] [] [] true).ok = false := by
  decide

end Server

end Props.C06
