import Props.HsInv
import LimeModel.ClientSpec
import LimeModel.Lemmas.ClientHs
/-!
# C09 — only offered transport options are negotiated and both ends apply them

* server, offer and confirmation: `Props.C07.emission_order` (the automaton's `isNegOpts` demands
  that the offer is exactly `configured ∩ supported`, `validSelection` that only an offered,
  non-empty pair is confirmed, anything else leads to `failed`);
* server applies the confirmed encryption before any authentication data: `server_applies_before_auth`;
* client applies it before it sends credentials: `client_applies_before_credentials`;
* both ends agree: `ends_agree`, for any pair of runs linked by the connection (the client's
  confirmation is the envelope the server emitted).
-/
namespace Props.C09
open LimeModel

section Server
open LimeModel.ServerHs LimeModel.ServerSpec

/-- **C09 (server applies before authenticating)**: in every run, once the server confirmed a
negotiated encryption, every authentication request, every `Authenticate` call and the
`established` envelope happen with the server's transport on exactly that encryption. -/
theorem server_applies_before_auth (c : Cfg) (recvs : List Recv) (auths : List AuthOut)
    (regs : List (Option Node)) (sendOk : List Bool) (setEncOk : Bool) (enc0 : Opt) :
    appliedRev (run c recvs auths regs sendOk setEncOk enc0).trace.reverse = true := by
  have ⟨_, h, _⟩ := Hs.run_inv c recvs auths regs sendOk setEncOk enc0
  exact h.applied

end Server

section Client
open LimeModel.ClientHs LimeModel.ClientSpec
open LimeModel.ServerHs (SState Ses Recv Opt)

def Applied (s : St) : Prop := cliAppliedRev s.trace = true ∧ ∀ b, confirmedByServer s.trace = some b → s.enc = b

theorem cliAppliedRev_nonemit (e : Ev) (t : List Ev) (he : ∀ x y, e ≠ .emit x y) :
    cliAppliedRev (e :: t) = cliAppliedRev t := by
  cases e <;> first | rfl | exact absurd rfl (he _ _)

theorem confirmedByServer_nonconf (e : Ev) (t : List Ev) (he : ∀ a b, e ≠ .confirmed a b) :
    confirmedByServer (e :: t) = confirmedByServer t := by
  cases e <;> first | rfl | exact absurd rfl (he _ _)

theorem Applied.log {s : St} (e : Ev) (he : ∀ x y, e ≠ .emit x y) (hc : ∀ a b, e ≠ .confirmed a b) (h : Applied s) :
    Applied (s.log e) :=
  ⟨(cliAppliedRev_nonemit e _ he).trans h.1, fun b hb => h.2 b ((confirmedByServer_nonconf e _ hc).symm.trans hb)⟩

/-- whatever is written goes out under the encryption in force, which is the confirmed one -/
theorem Applied.emit {s : St} (x : Ses) (h : Applied s) : Applied (s.log (.emit x s.enc)) := by
  refine ⟨?_, h.2⟩
  simp only [St.log, cliAppliedRev, h.1, Bool.and_true]
  split
  · split
    · rename_i b hb; exact decide_eq_true (h.2 b hb)
    · rfl
  · rfl

/-- the confirmation names the encryption the transport has to be on; the ghost event is logged
first, so `Applied` is lost until `SetEncryption` has brought the transport there -/
theorem applyConfirmed_applied {s : St} (x : Ses) (h : Applied s) :
    cliAppliedRev (applyConfirmed s x).2.trace = true ∧
    ((applyConfirmed s x).1 = true → Applied (applyConfirmed s x).2) := by
  have h1 : cliAppliedRev (.confirmed x.comp x.enc :: s.trace) = true := h.1
  have h2 (e : Ev) (he : ∀ x y, e ≠ .emit x y) : cliAppliedRev (e :: .confirmed x.comp x.enc :: s.trace) = true :=
    (cliAppliedRev_nonemit e _ he).trans h1
  rcases applyConfirmed_cases s x with e | e | e | ⟨he, e⟩ | ⟨he, e⟩ <;> rw [e]
  · exact ⟨h.1, fun _ => h⟩
  · exact ⟨h2 _ (by rintro _ _ ⟨⟩), nofun⟩
  · exact ⟨h2 _ (by rintro _ _ ⟨⟩), nofun⟩
  · -- the transport has been brought to the encryption the confirmation names
    exact ⟨h2 _ (by rintro _ _ ⟨⟩), fun _ => ⟨h2 _ (by rintro _ _ ⟨⟩), fun b hb =>
      Option.some.inj ((if_pos he).symm.trans hb)⟩⟩
  · -- nothing to do: the confirmation names none, or the one in force
    refine ⟨h1, fun _ => ⟨h1, fun b hb => ?_⟩⟩
    by_cases hn : x.enc = []
    · exact h.2 b ((if_neg (not_not_intro hn)).symm.trans hb)
    · exact (he.resolve_left hn).symm.trans (Option.some.inj ((if_pos hn).symm.trans hb))

theorem applied_keeps (c : Cfg) : Keeps c (fun _ => Applied) (fun s => cliAppliedRev s.trace = true) where
  weak h := h.1
  frame h hs := by unfold Applied; rw [hs.trace, hs.enc]; exact h
  wframe h hs := by rw [hs.trace]; exact h
  quiet e he := Applied.log e (by rintro _ _ rfl; cases he) (by rintro _ _ rfl; cases he)
  emit _ := Applied.emit _
  recvSes _ := Applied.log _ (by rintro _ _ ⟨⟩) (by rintro _ _ ⟨⟩)
  recvEst _ _ _ := Applied.log _ (by rintro _ _ ⟨⟩) (by rintro _ _ ⟨⟩)
  recvBad _ _ h := (Applied.log _ (by rintro _ _ ⟨⟩) (by rintro _ _ ⟨⟩) h).1
  setState := fun {_ s} x _ h => Applied.log (s := { s with state := x }) _ (by rintro _ _ ⟨⟩) (by rintro _ _ ⟨⟩) h
  confirmed := applyConfirmed_applied

/-- **C09 (client applies before credentials)**: in every run, once the server confirmed a
negotiated encryption (its `negotiating` reply to the client's selection names one), every client
envelope that carries credentials is written with the client's transport on exactly that
encryption. -/
theorem client_applies_before_credentials (c : Cfg) (recvs : List Recv) (auths : List Auth)
    (sendOk : List Bool) (setEncOk : Bool) (enc0 : Opt) :
    cliAppliedRev (ClientHs.run c recvs auths sendOk setEncOk enc0).trace.reverse = true := by
  rw [run_trace]
  exact (run_post (applied_keeps c) recvs auths sendOk setEncOk enc0 ⟨rfl, nofun⟩).weaken fun _ _ h => h.1.1

end Client

/-- **C09 (both ends agree)**: take any point of a server run where authentication data is
exchanged (an authentication request, or the established envelope, written with the server's
transport on `x`) and any point of a client run where credentials are written (with the client's
transport on `y`); if the newest confirmation the server had emitted and the confirmation the
client had received name the same encryption `b` — which is the case when the client's
confirmation *is* the server's envelope, delivered intact by the connection — then `x = y = b`:
the two ends run the same, confirmed, encryption whenever authentication data crosses. -/
theorem ends_agree (ts : List ServerHs.Ev) (tc : List ClientHs.Ev) (s cs : ServerHs.Ses) (x y b : ServerHs.Opt)
    (hs : ServerSpec.appliedRev (.emit s x :: ts) = true)
    (hst : s.state = .authenticating ∨ s.state = .established)
    (hb : ServerSpec.confirmedEnc ts = some b)
    (hc : ClientSpec.cliAppliedRev (.emit cs y :: tc) = true)
    (hauth : cs.auth.isSome = true)
    (hb' : ClientSpec.confirmedByServer tc = some b) : x = b ∧ y = b := by
  constructor
  · simp only [ServerSpec.appliedRev, hst, ↓reduceIte, hb, Bool.and_eq_true, decide_eq_true_eq] at hs
    exact hs.1
  · simp only [ClientSpec.cliAppliedRev, hauth, ↓reduceIte, hb', Bool.and_eq_true, decide_eq_true_eq] at hc
    exact hc.1

/-- the checkers are suffix closed, so `ends_agree` applies at every position of a run's trace -/
theorem appliedRev_tail (e : ServerHs.Ev) (t : List ServerHs.Ev) (h : ServerSpec.appliedRev (e :: t) = true) :
    ServerSpec.appliedRev t = true := by
  cases e with
  | emit | authCall => exact (Bool.and_eq_true_iff.mp h).2
  | _ => exact h

theorem cliAppliedRev_tail (e : ClientHs.Ev) (t : List ClientHs.Ev) (h : ClientSpec.cliAppliedRev (e :: t) = true) :
    ClientSpec.cliAppliedRev t = true := by
  cases e with
  | emit => exact (Bool.and_eq_true_iff.mp h).2
  | _ => exact h

end Props.C09
