import Props.C01
/-!
# C11 — replies built from an envelope are correctly correlated and addressed, and valid

For every request command and every message (any id, any from / pp / to combination, method,
resource, reason, event) and every builder.
-/
namespace Props.C11
open LimeModel LimeModel.Json Props.C01

/-- the sender of an envelope: the delegating node when present, otherwise `from` -/
def senderOf (e : Env) : Node := if e.pp.isZero then e.from_ else e.pp

/-- **C11 (correlation, responses)**: the three response builders copy the request's id and
method, address the reply to the request's sender, use the request's destination as origin, and
carry the requested status, reason and resource. -/
theorem response_correlated (c : RequestCommand) (reason : Option Reason) (d : Doc) :
    (c.successResponse.cmd.env.id = c.cmd.env.id ∧ c.successResponse.cmd.method = c.cmd.method ∧
      c.successResponse.cmd.env.to = senderOf c.cmd.env ∧ c.successResponse.cmd.env.from_ = c.cmd.env.to ∧
      c.successResponse.status = cs!"success" ∧ c.successResponse.cmd.resource = none) ∧
    ((c.failureResponse reason).cmd.env.id = c.cmd.env.id ∧ (c.failureResponse reason).cmd.method = c.cmd.method ∧
      (c.failureResponse reason).cmd.env.to = senderOf c.cmd.env ∧
      (c.failureResponse reason).cmd.env.from_ = c.cmd.env.to ∧
      (c.failureResponse reason).status = cs!"failure" ∧ (c.failureResponse reason).reason = reason) ∧
    ((c.successResponseWithResource d).cmd.env.id = c.cmd.env.id ∧
      (c.successResponseWithResource d).cmd.method = c.cmd.method ∧
      (c.successResponseWithResource d).cmd.env.to = senderOf c.cmd.env ∧
      (c.successResponseWithResource d).cmd.env.from_ = c.cmd.env.to ∧
      (c.successResponseWithResource d).status = cs!"success" ∧
      (c.successResponseWithResource d).cmd.resource = some d ∧
      (c.successResponseWithResource d).cmd.type = some d.mt) := by
  simp [RequestCommand.successResponse, RequestCommand.failureResponse,
    RequestCommand.successResponseWithResource, Env.sender, senderOf]

/-- **C11 (correlation, notifications)** -/
theorem notification_correlated (m : Message) (event : Str) (reason : Option Reason) :
    ((m.notification event).env.id = m.env.id ∧ (m.notification event).event = event ∧
      (m.notification event).env.to = senderOf m.env ∧ (m.notification event).env.from_ = m.env.to) ∧
    ((m.failedNotification reason).env.id = m.env.id ∧ (m.failedNotification reason).event = cs!"failed" ∧
      (m.failedNotification reason).reason = reason ∧
      (m.failedNotification reason).env.to = senderOf m.env ∧ (m.failedNotification reason).env.from_ = m.env.to) := by
  simp [Message.notification, Message.failedNotification, Env.sender, senderOf]

theorem sender_wf (e : Env) (hf : e.from_.wf = true) (hp : e.pp.wf = true) : (senderOf e).wf = true := by
  unfold senderOf; split <;> assumption

theorem reply_env_wf (id : Str) (a b : Node) (ha : a.wf = true) (hb : b.wf = true) :
    ({ id := id, from_ := a, to := b } : Env).wf = true := by
  simp only [Env.wf, ha, hb, Bool.and_true]
  decide

theorem doc_mt_wf (d : Doc) : d.mt.wf = true ∧ factoryFor d.mt = d.kind := by
  cases d <;> simp only [Doc.mt, Doc.kind] <;> exact ⟨by decide, by decide⟩

/-- **C11 (validity)**: for a request whose addresses are in the grammar and whose method is a
protocol method, every response built with a reason and a resource that are well-formed themselves
is a well-formed envelope — in particular a resource always
comes with its type — hence (C01) survives the wire with status, reason, resource and resource
type intact. -/
theorem response_wellformed (U : Str → Option Str) (c : RequestCommand)
    (hf : c.cmd.env.from_.wf = true) (hp : c.cmd.env.pp.wf = true) (ht : c.cmd.env.to.wf = true)
    (hm : commandMethods.contains c.cmd.method = true)
    (reason : Option Reason) (hr : optWf Reason.wf reason = true)
    (d : Doc) (hd : Doc.wf d.mt d = true) :
    (Envelope.response c.successResponse).wf U = true ∧
    (Envelope.response (c.failureResponse reason)).wf U = true ∧
    (Envelope.response (c.successResponseWithResource d)).wf U = true := by
  have hs := sender_wf c.cmd.env hf hp
  have henv := reply_env_wf c.cmd.env.id c.cmd.env.to (senderOf c.cmd.env) ht hs
  have hsnd : c.cmd.env.sender = senderOf c.cmd.env := rfl
  refine ⟨?_, ?_, ?_⟩
  · simp only [Envelope.wf, RequestCommand.successResponse, hsnd, henv, hm, optWf, Bool.and_self, Bool.true_and]
    decide
  · simp only [Envelope.wf, RequestCommand.failureResponse, hsnd, henv, hm, hr, Bool.and_self, Bool.true_and,
      Bool.and_true]
    decide
  · simp only [Envelope.wf, RequestCommand.successResponseWithResource, RequestCommand.successResponse, hsnd,
      henv, hm, optWf, (doc_mt_wf d).1, hd, Bool.and_self, Bool.true_and]
    decide

/-- **C11 (wire)**: the built responses encode, and a transport's receive path gives them back. -/
theorem response_survives_wire (U : Str → Option Str) (c : RequestCommand)
    (hf : c.cmd.env.from_.wf = true) (hp : c.cmd.env.pp.wf = true) (ht : c.cmd.env.to.wf = true)
    (hm : commandMethods.contains c.cmd.method = true)
    (reason : Option Reason) (hr : optWf Reason.wf reason = true)
    (d : Doc) (hd : Doc.wf d.mt d = true) :
    (∃ j, (Envelope.response c.successResponse).encode = .ok j ∧
        decodeAny U j = .ok (.response c.successResponse)) ∧
    (∃ j, (Envelope.response (c.failureResponse reason)).encode = .ok j ∧
        decodeAny U j = .ok (.response (c.failureResponse reason))) ∧
    (∃ j, (Envelope.response (c.successResponseWithResource d)).encode = .ok j ∧
        decodeAny U j = .ok (.response (c.successResponseWithResource d))) := by
  obtain ⟨h1, h2, h3⟩ := response_wellformed U c hf hp ht hm reason hr d hd
  obtain ⟨j1, e1, _, a1⟩ := envelope_roundtrip U _ h1
  obtain ⟨j2, e2, _, a2⟩ := envelope_roundtrip U _ h2
  obtain ⟨j3, e3, _, a3⟩ := envelope_roundtrip U _ h3
  exact ⟨⟨j1, e1, a1⟩, ⟨j2, e2, a2⟩, ⟨j3, e3, a3⟩⟩

/-- **C11 (notifications are valid)** -/
theorem notification_wellformed (U : Str → Option Str) (m : Message)
    (hf : m.env.from_.wf = true) (hp : m.env.pp.wf = true) (ht : m.env.to.wf = true)
    (event : Str) (he : notificationEvents.contains event = true)
    (reason : Option Reason) (hr : optWf Reason.wf reason = true) :
    (Envelope.notification (m.notification event)).wf U = true ∧
    (Envelope.notification (m.failedNotification reason)).wf U = true := by
  have hs := sender_wf m.env hf hp
  have henv := reply_env_wf m.env.id m.env.to (senderOf m.env) ht hs
  have hsnd : m.env.sender = senderOf m.env := rfl
  refine ⟨?_, ?_⟩
  · simp only [Envelope.wf, Message.notification, hsnd, henv, he, optWf, Bool.and_self]
  · simp only [Envelope.wf, Message.failedNotification, Message.notification, hsnd, henv, hr, Bool.and_true,
      Bool.true_and]
    decide

/-- **C11 (ping)**: the built-in ping auto-reply is `successResponseWithResource ping`: a success
response carrying the ping document together with the ping media type. -/
theorem ping_autoreply (c : RequestCommand) :
    (c.successResponseWithResource .ping).cmd.resource = some .ping ∧
    (c.successResponseWithResource .ping).cmd.type = some mtPing ∧
    (c.successResponseWithResource .ping).status = cs!"success" ∧
    (c.successResponseWithResource .ping).cmd.env.id = c.cmd.env.id := by
  simp [RequestCommand.successResponseWithResource, RequestCommand.successResponse, Doc.mt]

/-- Non-vacuity: a delegated `get /ping` request satisfies the hypotheses. -/
example :
    let c : RequestCommand := { cmd := { env := { id := cs!"1", from_ := ⟨cs!"a", cs!"b", cs!"c"⟩, pp := ⟨cs!"p", cs!"q", []⟩, to := ⟨cs!"postmaster", cs!"d", []⟩ }, method := cs!"get", type := none, resource := none }, uri := some cs!"/ping" }
    c.cmd.env.from_.wf = true ∧ c.cmd.env.pp.wf = true ∧ c.cmd.env.to.wf = true ∧
      commandMethods.contains c.cmd.method = true ∧ Doc.wf Doc.ping.mt Doc.ping = true ∧
      (c.successResponse.cmd.env.to = ⟨cs!"p", cs!"q", []⟩) := by decide

end Props.C11
