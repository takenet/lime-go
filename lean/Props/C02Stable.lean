import Props.C01
import Props.C02
/-!
# C02, second half — whatever the receive path accepts can be encoded again, and that encoding
decodes to the same envelope
-/
namespace Props.C02
open LimeModel LimeModel.Json LimeModel.Outcome

@[simp] theorem metaJson_norm (m : Option (List (Str × Str))) : metaJson (normMeta m) = metaJson m := by
  cases m with
  | none => rfl
  | some l => cases l <;> rfl

@[simp] theorem sliceJson_norm (o : Option (List Str)) : sliceJson (normOpts o) = sliceJson o := by
  cases o with
  | none => rfl
  | some l => cases l <;> rfl

theorem Raw.members_normR (r : Raw) (ev me st : Option Json) : r.normR.members ev me st = r.members ev me st := by
  unfold Raw.members Raw.normR
  dsimp only
  rw [metaJson_norm, sliceJson_norm, sliceJson_norm, sliceJson_norm]

theorem Raw.toJson_normR (r : Raw) : r.normR.toJson = r.toJson := by
  have h1 : r.normR.event = r.event := rfl
  have h2 : r.normR.method = r.method := rfl
  have h3 : r.normR.state = r.state := rfl
  simp only [Raw.toJson, h1, h2, h3, Raw.members_normR]

theorem Command.toRaw_norm (c : Command) : c.norm.toRaw = c.toRaw.normR := by
  obtain ⟨env, me, t, res⟩ := c
  cases res <;> rfl

theorem toRaw_norm (e : Envelope) : e.norm.toRaw = e.toRaw.bind (fun r => .ok r.normR) := by
  cases e with
  | message m =>
    obtain ⟨env, t, c⟩ := m
    cases c <;> rfl
  | notification n => rfl
  | request c => simp only [Envelope.norm, Envelope.toRaw, RequestCommand.toRaw, Command.toRaw_norm]; rfl
  | response c => simp only [Envelope.norm, Envelope.toRaw, ResponseCommand.toRaw, Command.toRaw_norm]; rfl
  | session s => rfl

theorem encode_norm (e : Envelope) : e.norm.encode = e.encode := by
  simp only [Envelope.encode, toRaw_norm]
  cases e.toRaw with
  | ok r => exact Raw.toJson_normR r
  | err => rfl
  | panic => rfl

theorem kind_norm (e : Envelope) : e.norm.kind = e.kind := by cases e <;> rfl

@[simp] theorem normMeta_idem (m : Option (List (Str × Str))) : normMeta (normMeta m) = normMeta m := by
  cases m with
  | none => rfl
  | some l => cases l <;> rfl

@[simp] theorem normOpts_idem (o : Option (List Str)) : normOpts (normOpts o) = normOpts o := by
  cases o with
  | none => rfl
  | some l => cases l <;> rfl

theorem norm_idem (e : Envelope) : e.norm.norm = e.norm := by
  cases e <;> simp [Envelope.norm, Env.norm, Command.norm]

/-- every envelope the receive path accepts is, in normal form, inside the grammar of `Envelope.wf` -/
theorem decodeAny_wf (U : Str → Option Str) (hU : UIdem U) (j : Json) (e : Envelope)
    (h : decodeAny U j = .ok e) : e.norm.wf U = true :=
  (decodeAny_sat U j).of_ok h hU

/-- Stability is a fact about values: an envelope whose normal form is in the typed decoders' grammar
encodes, its encoding decodes (typed; and by the receive path if the normal form is in its grammar)
to the normal form, and the normal form encodes to the same tree. -/
theorem reencodes (U : Str → Option Str) (e : Envelope) (hw : e.norm.wfT U = true) :
    ∃ j', e.encode = .ok j' ∧ decodeTyped U e.kind j' = .ok e.norm ∧ e.norm.encode = .ok j' ∧
      (e.norm.wf U = true → decodeAny U j' = .ok e.norm) := by
  obtain ⟨j', h1, h2, h3⟩ := Props.C01.roundtrip U e.norm hw
  rw [kind_norm] at h2
  exact ⟨j', encode_norm e ▸ h1, h2, h1, h3⟩

/-- **C02 (stable under re-encoding)**: whatever a transport's receive path accepts — from any JSON
tree at all — can be encoded again; decoding that encoding (by the receive path and by the typed
decoder of the envelope's kind) is accepted and yields the same envelope in normal form, i.e. equal
up to nil-versus-empty of the metadata map and the three option slices, which no encoding can tell
apart; and the envelope it yields encodes to the very same tree, so forwarding is stable from the
first hop on. `U` is the URL library's parse-then-print, assumed idempotent. -/
theorem accepted_reencodes (U : Str → Option Str) (hU : UIdem U) (j : Json) (e : Envelope)
    (h : decodeAny U j = .ok e) :
    ∃ j', e.encode = .ok j' ∧ decodeAny U j' = .ok e.norm ∧ decodeTyped U e.kind j' = .ok e.norm ∧
      e.norm.encode = .ok j' :=
  have hw := decodeAny_wf U hU j e h
  let ⟨j', h1, h2, h3, h4⟩ := reencodes U e (Props.C01.wfT_of_wf U _ hw)
  ⟨j', h1, h4 hw, h2, h3⟩

/-- an accepted envelope without an empty non-nil map or slice comes back exactly -/
theorem accepted_reencodes_exact (U : Str → Option Str) (hU : UIdem U) (j : Json) (e : Envelope)
    (h : decodeAny U j = .ok e) (hn : e.norm = e) :
    ∃ j', e.encode = .ok j' ∧ decodeAny U j' = .ok e := by
  obtain ⟨j', h1, h2, _⟩ := accepted_reencodes U hU j e h
  exact ⟨j', h1, by rw [hn] at h2; exact h2⟩

theorem uidem_id : UIdem (fun s => some s) := by intro s u h; cases h; rfl

/-- a notification with duplicate members, a `null` that resets one, an alien member and an empty
metadata object is accepted … -/
def oddNotification : Json :=
  .obj [(cs!"id", .str cs!"1"), (cs!"event", .str cs!"failed"), (cs!"EVENT", .str cs!"received"),
        (cs!"alien", .arr [.null]), (cs!"from", .str cs!"a@b/c@d"), (cs!"metadata", .obj []),
        (cs!"reason", .obj [(cs!"code", .num (.int 7))]), (cs!"to", .null)]

theorem oddNotification_decodes : decodeAny (fun s => some s) oddNotification =
    .ok (.notification { env := { id := cs!"1", from_ := ⟨cs!"a", cs!"b", cs!"c@d"⟩, metadata := some [] },
                         event := cs!"received", reason := some ⟨7, []⟩ }) := by rfl

example : ∃ e, decodeAny (fun s => some s) oddNotification = .ok e ∧ e.norm ≠ e :=
  ⟨_, oddNotification_decodes, by simp [Envelope.norm, Env.norm, normMeta]⟩

/-- … and the normal form is needed: its re-encoding decodes to the envelope with a nil map, which
differs from the accepted one only there -/
example : ∃ e j', decodeAny (fun s => some s) oddNotification = .ok e ∧ e.encode = .ok j' ∧
    decodeAny (fun s => some s) j' = .ok e.norm :=
  let ⟨j', h1, h2, _⟩ := accepted_reencodes _ uidem_id _ _ oddNotification_decodes
  ⟨_, j', oddNotification_decodes, h1, h2⟩

end Props.C02
