import Props.HsInv
/-! # C10 — a server that does not offer cleartext never authenticates over cleartext -/
namespace Props.C10
open LimeModel LimeModel.ServerHs LimeModel.ServerSpec

/-- the checker looks at observable events only -/
theorem encRev_obs (c : Cfg) (tr : List Ev) : encRev c (obs tr) = encRev c tr := by
  induction tr with
  | nil => rfl
  | cons e t ih =>
    -- both sides evaluate on the event; `ih` is left, for `emit` and `authCall` under the same test
    cases e with
    | emit s e => exact congrArg (_ && ·) ih
    | authCall a b c' d e f => exact congrArg (_ && ·) ih
    | _ => exact ih

/-- **C10**: the connection supports a configured encryption option (`inter … ≠ []`); then every
authentication request, every `Authenticate` call and every `established` envelope in every run
happens under a *configured* encryption — so if cleartext (`none`) is not configured, never over
cleartext. A run is any client script, callback outcomes, send failures, `SetEncryption` outcome and
encryption initially in force. -/
theorem no_cleartext_auth (c : Cfg) (recvs : List Recv) (auths : List AuthOut) (regs : List (Option Node))
    (sendOk : List Bool) (setEncOk : Bool) (enc0 : Opt)
    (hne : inter c.encOpts c.supEnc ≠ []) :
    encRev c (run c recvs auths regs sendOk setEncOk enc0).trace.reverse = true := by
  have ⟨_, h, _⟩ := Hs.run_inv c recvs auths regs sendOk setEncOk enc0
  exact h.encs hne

/-- The README / example configuration: `EncryptionOptions(TLS)` on a TLS-capable TCP connection.
A client that skips negotiation and presents credentials at once gets no authentication request:
the server offers negotiation, and answers the out-of-order envelope with `failed`. -/
def readmeCfg : Cfg :=
  { sid := cs!"s1", node := ⟨cs!"srv", cs!"d", cs!"i"⟩, compOpts := [cs!"none"], encOpts := [cs!"tls"], schemeOpts := [cs!"plain"], supComp := [cs!"none"], supEnc := [cs!"none", cs!"tls"] }

example : inter readmeCfg.encOpts readmeCfg.supEnc ≠ [] ∧ readmeCfg.encOpts.contains cs!"none" = false := by decide

/-- Non-vacuity: a cooperative client is taken through negotiation to TLS and established there. -/
def readmeRun : Result :=
  run readmeCfg [.ses { state := .new }, .ses { id := cs!"s1", state := .negotiating, comp := cs!"none", enc := cs!"tls" }, .ses { id := cs!"s1", from_ := ⟨cs!"u", cs!"d", cs!"i"⟩, state := .authenticating, scheme := cs!"plain", auth := some (.plain cs!"cHc=") }] [.role] [some ⟨cs!"u", cs!"d", cs!"x"⟩] [] true

example : readmeRun.final.state = .established ∧ readmeRun.final.enc = cs!"tls" := by decide

end Props.C10
