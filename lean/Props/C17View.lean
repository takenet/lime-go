import Props.C17
/-!
# C17 (non-interference lifted to whole runs)

From any state in which connection `i` has session `ss`, after *any* sequence of operations of *all*
connections (accepts, envelopes on other sessions, envelopes on this one, in any interleaving), the
events of connection `i` are exactly those determined by `ss`, the handler table and connection
`i`'s own inputs; its session record is unchanged. Nothing another session does adds to, removes
from, or alters what connection `i` sees.
-/
namespace Props.C17
open LimeModel.Mux (Kind Table Handler)
open LimeModel.Sessions

/-- the events that connection `i`'s own inputs (newest first) produce -/
def viewOf (t : Table Nat) (i : Nat) (ss : Sess) : List (Kind × Nat) → List Ev
  | [] => []
  | (k, e) :: rest =>
    match invokedHandler t k e with
    | none => viewOf t i ss rest
    | some h => .invoked i k h ss.id ss.loc ss.rem i e :: viewOf t i ss rest

theorem viewOf_append (t : Table Nat) (i : Nat) (ss : Sess) (a b : List (Kind × Nat)) :
    viewOf t i ss (a ++ b) = viewOf t i ss a ++ viewOf t i ss b := by
  induction a with
  | nil => rfl
  | cons x rest ih =>
    obtain ⟨k, e⟩ := x
    simp only [List.cons_append, viewOf]
    cases hh : invokedHandler t k e <;> simp [ih]

theorem expected_eq (t : Table Nat) (i : Nat) (ss : Sess) (l : List (Kind × Nat)) :
    expected t i ss l = viewOf t i ss l ++ [.announced i ss.id ss.rem] := by
  induction l with
  | nil => rfl
  | cons x rest ih =>
    obtain ⟨k, e⟩ := x
    simp only [expected, viewOf]
    cases hh : invokedHandler t k e <;> simp [ih]

theorem step_keeps_session (t : Table Nat) (s : St) (o : Op) (i : Nat) (ss : Sess)
    (h : s.sessions[i]? = some ss) : (step t s o).sessions[i]? = some ss := by
  fun_cases step t s o with
  | case2 => exact getElem?_append_some h _
  | _ => exact h

/-- **C17 (whole-run non-interference)** -/
theorem session_view_determined (t : Table Nat) (i : Nat) (ss : Sess) :
    ∀ (ops : List Op) (s : St), s.sessions[i]? = some ss →
      (ops.foldl (step t) s).sessions[i]? = some ss ∧
      proj i (ops.foldl (step t) s).trace = viewOf t i ss (inputsOf i ops) ++ proj i s.trace := by
  intro ops
  induction ops with
  | nil => intro s h; exact ⟨h, rfl⟩
  | cons o rest ih =>
    intro s h
    obtain ⟨h1, h2⟩ := ih (step t s o) (step_keeps_session t s o i ss h)
    refine ⟨h1, ?_⟩
    rw [List.foldl_cons, h2]
    cases o with
    | accept reg =>
      -- connection `i` exists already, so it is not the one being accepted
      rw [other_steps_invisible t s (.accept reg) i (Nat.ne_of_gt (List.getElem?_eq_some_iff.1 h).1)]
      rfl
    | recv j k e =>
      by_cases hj : j = i
      · subst hj
        simp only [inputsOf, ↓reduceIte, viewOf_append, List.append_assoc]
        congr 1
        simp only [step, h, viewOf]
        cases invokedHandler t k e <;> simp [proj]
      · rw [other_steps_invisible t s (.recv j k e) i hj]
        simp only [inputsOf, hj, ↓reduceIte]

/-- for a connection that has just been announced and nothing else, the whole view is the model's
`expected` list over its own inputs -/
theorem fresh_session_view (t : Table Nat) (i : Nat) (ss : Sess) (ops : List Op) (s : St)
    (h : s.sessions[i]? = some ss) (hf : proj i s.trace = [.announced i ss.id ss.rem]) :
    proj i (ops.foldl (step t) s).trace = expected t i ss (inputsOf i ops) := by
  rw [(session_view_determined t i ss ops s h).2, hf, expected_eq]

/-- non-vacuity: connection 0 among interleaved traffic of connection 1 -/
example :
    let t : Table Nat := { msg := [⟨none, fun _ => false⟩], ntf := [], req := [], resp := [] }
    let s := run t 9 [41, 42, 43] [.accept 5, .accept 6]
    s.sessions[0]? = some ⟨41, 9, 5⟩ ∧
    proj 0 ([Op.recv 1 .msg 7, .recv 0 .msg 8, .accept 4, .recv 1 .msg 3].foldl (step t) s).trace =
      [.invoked 0 .msg 0 41 9 5 0 8, .announced 0 41 5] := by
  decide

end Props.C17
