import LimeModel.Lemmas.ClientHs
/-!
# C06, receive side on the client: a non-session input before establishment aborts the handshake

`nonsession_input_aborts_client`: in every run of the client handshake model, either every input that
was not a session envelope was consumed after the channel had entered `established` (where it belongs
to the application), or `EstablishSession` returns an error and that input is the newest event of the
trace: nothing was sent, no callback ran, no state was adopted after it.
-/
namespace Props.C06.Client
open LimeModel LimeModel.ClientHs
open LimeModel.ServerHs (SState Ses Recv Opt)

def isSes : Recv → Bool
  | .ses _ => true
  | _ => false

def isSetEst : Ev → Bool
  | .setState .established => true
  | _ => false

/-- the channel has entered `established` somewhere in this (newest-first) trace -/
def estIn (t : List Ev) : Bool := t.any isSetEst

/-- every input that is not a session envelope was consumed after establishment -/
def goodRev : List Ev → Bool
  | [] => true
  | .recv r :: t => (isSes r || estIn t) && goodRev t
  | _ :: t => goodRev t

/-- the newest event is an input that is not a session envelope, and all was well before it -/
def BadLast (t : List Ev) : Prop := ∃ r older, t = .recv r :: older ∧ isSes r = false ∧ goodRev older = true

def Good (s : St) : Prop := goodRev s.trace = true ∧ (s.state = .established → estIn s.trace = true)

theorem estIn_cons (e : Ev) (t : List Ev) (h : estIn t = true) : estIn (e :: t) = true := by
  unfold estIn at *; rw [List.any_cons, h, Bool.or_true]

theorem good_log (s : St) (e : Ev) (he : ∀ r, e ≠ .recv r) (h : goodRev s.trace = true) :
    goodRev (s.log e).trace = true := by
  cases e <;> first | exact h | exact absurd rfl (he _)

theorem Good.log {s : St} (e : Ev) (he : ∀ r, e ≠ .recv r) (h : Good s) : Good (s.log e) :=
  ⟨good_log s e he h.1, fun hs => estIn_cons e _ (h.2 hs)⟩

theorem Good.recv {s : St} (r : Recv) (hr : isSes r = true ∨ s.state = .established) (h : Good s) :
    Good (s.log (.recv r)) := by
  refine ⟨?_, fun hs => estIn_cons _ _ (h.2 hs)⟩
  have : (isSes r || estIn s.trace) = true := by
    rcases hr with hr | hr
    · rw [hr]; rfl
    · rw [h.2 hr, Bool.or_true]
  simp only [St.log, goodRev, this, h.1, Bool.and_self]

theorem isSes_false {r : Recv} (hr : ∀ x, r ≠ .ses x) : isSes r = false := by
  cases r <;> first | rfl | exact absurd rfl (hr _)

theorem good_keeps (c : Cfg) : Keeps c (fun _ => Good) (fun s => Good s ∨ BadLast s.trace) where
  weak := .inl
  frame h hs := by unfold Good; rw [hs.trace, hs.state]; exact h
  wframe h hs := by unfold Good; rw [hs.trace, hs.state]; exact h
  quiet e he := Good.log e (by rintro _ rfl; cases he)
  emit _ := Good.log _ (by rintro _ ⟨⟩)
  recvSes _ := Good.recv _ (.inl rfl)
  recvEst _ _ hs := Good.recv _ (.inr hs)
  recvBad r hr h := .inr ⟨r, _, rfl, isSes_false hr, h.1⟩
  setState := fun {_ s} x _ h => ⟨good_log { s with state := x } _ (by rintro _ ⟨⟩) h.1, by
    rintro (rfl : x = .established); rfl⟩
  confirmed x h :=
    have := confirmed_of_silent (fun e he => Good.log e (by rintro _ rfl; cases he)) (fun _ h => h) x h
    ⟨.inl this, fun _ => this⟩

/-- **C06 (receive side, client)**: for every configuration, server script, authenticator outcome,
failing-send pattern and `SetEncryption` outcome: either every input that was not a session
envelope was consumed after the channel had entered `established`, or `EstablishSession` returns an
error and the offending input is the newest event of the trace. -/
theorem nonsession_input_aborts_client (c : Cfg) (recvs : List Recv) (auths : List Auth) (sendOk : List Bool)
    (setEncOk : Bool) (enc0 : Opt) :
    let r := run c recvs auths sendOk setEncOk enc0
    goodRev r.trace.reverse = true ∨ (r.res = .err ∧ BadLast r.trace.reverse) := by
  have h := run_post (good_keeps c) recvs auths sendOk setEncOk enc0 ⟨rfl, nofun⟩
  simp only [run_trace]
  generalize run c recvs auths sendOk setEncOk enc0 = r at h ⊢
  obtain ⟨_, res, fin⟩ := r
  cases res with
  | ok x => exact .inl h.1.1
  | err => exact h.imp (·.1) (⟨rfl, ·⟩)
  | panic => exact h.elim

end Props.C06.Client
