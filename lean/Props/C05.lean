import LimeModel.Pending
import LimeModel.Lemmas.Run
/-!
# C05 — command responses are matched to their requests

Any set of `ProcessCommand` calls, any sequence of incoming responses (duplicates, unknown ids, late
answers), any interleaving of the lock regions of callers and receiver. `c05_own`, `waiting_call_reachable`,
`table_empty_at_quiescence` and `id_reusable_after_completion` are about every run from `init`; the others
are about one state or one step, under the invariant `PInv` where they need it. The witness `r2` shows
that the tree before the repair lost a response and surfaced it on the stream instead.
-/
namespace Props.C05
open LimeModel.Pending

-- the R2 schedule exhibited on the real code with a temporary gate ----------------------------
def r2 : List Lbl := [.spawn 0 7, .register 0, .send 0 true, .rcvLookup, .cancel 0, .cleanup 0,
  .spawn 1 7, .register 1, .send 1 true, .rcvDelete, .rcvHandoff, .rcvLookup]
def r2in : List Resp := [⟨7, 100⟩, ⟨7, 200⟩]     -- late answer to call 0, then the answer to call 1

-- unchanged tree: call 1 is still waiting, its own answer (tag 200) went to the stream
example : ((runL false (init r2in) r2).map fun s => (s.stream, (s.caller 1).pc)) = some ([⟨7, 200⟩], .waiting) := by decide
-- repaired: the same schedule is not even executable (no separate rcvDelete step) ...
example : ((runL true (init r2in) r2).map fun s => s.stream) = none := by decide
-- ... and the corresponding repaired schedule hands 200 to call 1
def r2' : List Lbl := [.spawn 0 7, .register 0, .send 0 true, .rcvLookup, .cancel 0, .cleanup 0,
  .spawn 1 7, .register 1, .send 1 true, .rcvHandoff, .rcvLookup, .rcvHandoff, .take 1]
example : ((runL true (init r2in) r2').map fun s => (s.stream, (s.caller 1).pc)) = some ([], .cleanup (.resp ⟨7, 200⟩)) := by decide

/-- repaired-model invariant: the table points only at live callers of that id, a caller's
    channel only ever holds a response with the caller's id, and so does the receiver's hand. -/
structure PInv (s : S) : Prop where
  tbl : ∀ id i, s.table id = some i → (s.caller i).id = id ∧ ((s.caller i).pc = .registered ∨ (s.caller i).pc = .waiting ∨ ∃ r, (s.caller i).pc = .cleanup r)
  chn : ∀ i r, s.chan i = some r → r.id = (s.caller i).id ∧ (s.caller i).pc ≠ .absent ∧ (s.caller i).pc ≠ .start
  hand : ∀ r ch, (s.rcv = .lookedUp r ch ∨ s.rcv = .deleted r ch) → r.id = (s.caller ch).id ∧ (s.caller ch).pc ≠ .absent ∧ (s.caller ch).pc ≠ .start
  res : ∀ i r, ((s.caller i).pc = .cleanup (.resp r) ∨ (s.caller i).pc = .done (.resp r)) → r.id = (s.caller i).id
  nolook : ∀ r ch, s.rcv ≠ .lookedUp r ch
  /-- a registered or waiting call is still reachable through the table unless its answer is already on its way to it -/
  own : ∀ i, ((s.caller i).pc = .registered ∨ (s.caller i).pc = .waiting) →
    s.table (s.caller i).id = some i ∨ (∃ r, s.chan i = some r) ∨ (∃ r, s.rcv = .deleted r i)

theorem inv_init (inc) : PInv (init inc) := by
  constructor <;> simp [init]

theorem upd_same {α} (f : Nat → α) (k v) : upd f k v k = v := by simp [upd]
theorem upd_other {α} (f : Nat → α) (k v x) (h : x ≠ k) : upd f k v x = f x := by simp [upd, h]

theorem own_response_only (s : S) (h : PInv s) (i r) (hd : (s.caller i).pc = .done (.resp r)) :
    r.id = (s.caller i).id := h.res i r (Or.inr hd)

/-- The transitions of the repaired table (`step true`), one constructor per label and branch. What a step does
to a state is shown by cases on this relation (`Step.of_step`). -/
inductive Step (s : S) : Lbl → S → Prop
  | spawn (i id) : (s.caller i).pc = .absent → Step s (.spawn i id) { s with caller := upd s.caller i ⟨id, .start⟩ }
  | reject (i j) : (s.caller i).pc = .start → s.table (s.caller i).id = some j →
      Step s (.register i) (setPC s i (.done .rejected))
  | register (i) : (s.caller i).pc = .start → s.table (s.caller i).id = none →
      Step s (.register i) (setPC { s with table := upd s.table (s.caller i).id (some i) } i .registered)
  | send (i ok) : (s.caller i).pc = .registered →
      Step s (.send i ok) (setPC s i (if ok then .waiting else .cleanup .sendErr))
  | take (i r) : (s.caller i).pc = .waiting → s.chan i = some r →
      Step s (.take i) (setPC { s with chan := upd s.chan i none } i (.cleanup (.resp r)))
  | cancel (i) : (s.caller i).pc = .waiting → Step s (.cancel i) (setPC s i (.cleanup .ctxErr))
  | cleanupOwn (i res) : (s.caller i).pc = .cleanup res → s.table (s.caller i).id = some i →
      Step s (.cleanup i) (setPC { s with table := upd s.table (s.caller i).id none } i (.done res))
  | cleanupOther (i res) : (s.caller i).pc = .cleanup res → s.table (s.caller i).id ≠ some i →
      Step s (.cleanup i) (setPC s i (.done res))
  | toStream (r rest) : s.rcv = .idle → s.incoming = r :: rest → s.table r.id = none →
      Step s .rcvLookup { s with incoming := rest, stream := s.stream ++ [r] }
  | toHand (r rest ch) : s.rcv = .idle → s.incoming = r :: rest → s.table r.id = some ch →
      Step s .rcvLookup { s with incoming := rest, table := upd s.table r.id none, rcv := .deleted r ch }
  -- `step` is shared with the unrepaired variant, whose `rcvLookup` enters `lookedUp`; the repaired one never
  -- does (`PInv.nolook`), so this step is there and never fires
  | rcvDelete (r ch) : s.rcv = .lookedUp r ch →
      Step s .rcvDelete { s with table := upd s.table r.id none, rcv := .deleted r ch }
  | handoff (r ch) : s.rcv = .deleted r ch → s.chan ch = none →
      Step s .rcvHandoff { s with chan := upd s.chan ch (some r), rcv := .idle }

theorem Step.of_step {s s' : S} {l : Lbl} (h : step true s l = some s') : Step s l s' := by
  revert h
  -- one case per branch of `step`; the branches that return `none` go by `cases h`
  fun_cases step true s l <;> intro h <;> cases h
  case case13 i res hg del =>
    -- the deferred delete; `del`: the slot is still the caller's own
    by_cases ht : s.table (s.caller i).id = some i
    · simpa [del, ht] using Step.cleanupOwn i res hg ht
    · simpa [del, ht] using Step.cleanupOther i res hg ht
  -- the branch of `rcvLookup` that the tree before the repair took
  case case18 => contradiction
  all_goals constructor <;> assumption

theorem runL_preserves {f : Bool} {P : S → Prop} (hstep : ∀ s s1 l, P s → step f s l = some s1 → P s1) :
    ∀ ls s s', P s → runL f s ls = some s' → P s' :=
  LimeModel.run_preserves (fun _ => rfl) (fun s l ls => by simp only [runL]; cases step f s l <;> rfl) hstep

/-- what `PInv` says of caller `i` -/
structure At (s : S) (i : Nat) : Prop where
  tbl : ∀ id, s.table id = some i → (s.caller i).id = id ∧ ((s.caller i).pc = .registered ∨ (s.caller i).pc = .waiting ∨ ∃ r, (s.caller i).pc = .cleanup r)
  chn : ∀ r, s.chan i = some r → r.id = (s.caller i).id ∧ (s.caller i).pc ≠ .absent ∧ (s.caller i).pc ≠ .start
  hand : ∀ r, s.rcv = .deleted r i → r.id = (s.caller i).id ∧ (s.caller i).pc ≠ .absent ∧ (s.caller i).pc ≠ .start
  res : ∀ r, ((s.caller i).pc = .cleanup (.resp r) ∨ (s.caller i).pc = .done (.resp r)) → r.id = (s.caller i).id
  own : ((s.caller i).pc = .registered ∨ (s.caller i).pc = .waiting) →
    s.table (s.caller i).id = some i ∨ (∃ r, s.chan i = some r) ∨ (∃ r, s.rcv = .deleted r i)

theorem PInv.at {s : S} (h : PInv s) (i : Nat) : At s i :=
  ⟨fun id => h.tbl id i, h.chn i, fun r hr => h.hand r i (.inr hr), h.res i, h.own i⟩

theorem PInv.of_at {s : S} (hl : ∀ r ch, s.rcv ≠ .lookedUp r ch) (h : ∀ i, At s i) : PInv s :=
  ⟨fun id i => (h i).tbl id, fun i => (h i).chn, fun r ch hr => (h ch).hand r (hr.resolve_left (hl r ch)),
   fun i => (h i).res, hl, fun i => (h i).own⟩

/-- `At s j` reads only caller `j`, its reply slot, which table slots point at `j`, and whether the receiver's
hand is for `j` -/
theorem At.congr {s s' : S} {j : Nat} (h : At s j) (hc : s'.caller j = s.caller j) (hch : s'.chan j = s.chan j)
    (ht : ∀ id, s'.table id = some j ↔ s.table id = some j) (hr : ∀ r, s'.rcv = .deleted r j ↔ s.rcv = .deleted r j) :
    At s' j := by
  obtain ⟨h1, h2, h3, h4, h5⟩ := h
  constructor <;> simp only [hc, hch, ht, hr] <;> assumption

/-- a step that concerns caller `i` only: the others keep what the invariant says of them -/
theorem PInv.frame {s s' : S} (h : PInv s) (i : Nat) (hl : ∀ r ch, s'.rcv ≠ .lookedUp r ch)
    (hc : ∀ j, j ≠ i → s'.caller j = s.caller j) (hch : ∀ j, j ≠ i → s'.chan j = s.chan j)
    (ht : ∀ j, j ≠ i → ∀ id, s'.table id = some j ↔ s.table id = some j)
    (hr : ∀ j, j ≠ i → ∀ r, s'.rcv = .deleted r j ↔ s.rcv = .deleted r j) (hi : At s' i) : PInv s' :=
  .of_at hl fun j => if hj : j = i then hj ▸ hi else (h.at j).congr (hc j hj) (hch j hj) (ht j hj) (hr j hj)

theorem PInv.frame_caller {s : S} (h : PInv s) (i : Nat) (c : Caller)
    (hi : At { s with caller := upd s.caller i c } i) : PInv { s with caller := upd s.caller i c } :=
  h.frame i h.nolook (fun j => upd_other _ _ _ j) (fun _ _ => rfl) (fun _ _ _ => .rfl) (fun _ _ _ => .rfl) hi

/-- Overwriting a slot that was empty or pointed at `i` with empty or `i` is invisible to every other caller.
The tree before the repair failed this: its clean-up emptied the slot whoever it pointed at. -/
theorem upd_eq_some_iff {t : Nat → Option Nat} {k i j : Nat} {o : Option Nat} (hj : j ≠ i)
    (hold : t k = none ∨ t k = some i) (hnew : o = none ∨ o = some i) (id : Nat) :
    upd t k o id = some j ↔ t id = some j := by
  by_cases hid : id = k
  · subst hid; rcases hold with e | e <;> rcases hnew with e' | e' <;> simp [upd, e, e', Ne.symm hj]
  · simp [upd, hid]

theorem upd_none_eq_some {t : Nat → Option Nat} {k id j : Nat} : upd t k none id = some j ↔ id ≠ k ∧ t id = some j := by
  by_cases hid : id = k <;> simp [upd, hid]

attribute [local simp] upd_same setPC in
/-- Every step concerns one caller `i` (its own step, or the receiver matching / handing over `i`'s answer):
`PInv.frame` keeps the others. For `i`, what `At s i` says under the guard (`simp [hg] at ..`) is compared with
what `At s' i` asks under the new `pc` (`constructor <;> simp`); what does not coincide is shown by hand. -/
theorem inv_step (s s' : S) (l : Lbl) (h : PInv s) (hs : step true s l = some s') : PInv s' := by
  cases Step.of_step hs with
  | spawn i _ hg | reject i _ hg _ =>
    -- nothing refers to a call that has not registered
    obtain ⟨tbl, chn, hand, res, own⟩ := h.at i
    simp [hg] at tbl chn hand
    exact h.frame_caller i _ (by constructor <;> simp [tbl, chn, hand])
  | register i hg ht =>
    obtain ⟨tbl, chn, hand, res, own⟩ := h.at i
    simp [hg] at tbl chn hand
    refine h.frame i h.nolook (fun j => upd_other _ _ _ j) (fun _ _ => rfl)
      (fun j hj => upd_eq_some_iff hj (.inl ht) (.inr rfl)) (fun _ _ _ => .rfl) ?_
    constructor <;> simp [chn, hand]
    case tbl =>
      intro id' ht'
      by_cases e : id' = (s.caller i).id
      · exact e.symm
      · rw [upd_other _ _ _ _ e] at ht'; exact absurd ht' (tbl id')
  | send i ok hg =>
    obtain ⟨tbl, chn, hand, res, own⟩ := h.at i
    simp [hg] at tbl chn hand own
    refine h.frame_caller i _ ?_
    cases ok <;> constructor <;> simp <;> assumption
  | take i r hg hc =>
    obtain ⟨tbl, chn, hand, res, own⟩ := h.at i
    simp [hg] at tbl chn hand
    refine h.frame i h.nolook (fun j => upd_other _ _ _ j) (fun j => upd_other _ _ _ j) (fun _ _ _ => .rfl) (fun _ _ _ => .rfl) ?_
    constructor <;> simp <;> try assumption
    case res => exact chn r hc
  | cancel i hg =>
    obtain ⟨tbl, chn, hand, res, own⟩ := h.at i
    simp [hg] at tbl chn hand
    exact h.frame_caller i _ (by constructor <;> simp <;> assumption)
  | cleanupOwn i _ hg ht =>
    obtain ⟨tbl, chn, hand, res, own⟩ := h.at i
    simp [hg] at tbl chn hand res
    refine h.frame i h.nolook (fun j => upd_other _ _ _ j) (fun _ _ => rfl)
      (fun j hj => upd_eq_some_iff hj (.inr ht) (.inl rfl)) (fun _ _ _ => .rfl) ?_
    constructor <;> simp [upd_none_eq_some] <;> try assumption
    case tbl => exact fun id' e ht' => e (tbl id' ht').symm
  | cleanupOther i _ hg ht =>
    obtain ⟨tbl, chn, hand, res, own⟩ := h.at i
    simp [hg] at tbl chn hand res
    refine h.frame_caller i _ ?_
    constructor <;> simp <;> try assumption
    case tbl => exact fun id' ht' => ht (tbl id' ht' ▸ ht')
  | toStream r rest => exact ⟨h.tbl, h.chn, h.hand, h.res, h.nolook, h.own⟩
  | toHand r rest ch hg hin ht =>
    -- the claim of caller `ch` moves from the table into the receiver's hand ...
    obtain ⟨tbl, chn, hand, res, own⟩ := h.at ch
    refine h.frame ch (by simp) (fun _ _ => rfl) (fun _ _ => rfl) (fun j hj => upd_eq_some_iff hj (.inr ht) (.inl rfl))
      (fun j hj r' => by simp [hg, Ne.symm hj]) ?_
    constructor <;> simp [upd_none_eq_some] <;> try assumption
    case tbl => exact fun id' _ ht' => tbl id' ht'
    case hand => exact ⟨(tbl _ ht).1.symm, by rcases (tbl _ ht).2 with e | e | ⟨_, e⟩ <;> simp [e]⟩
  | rcvDelete r ch hg => exact absurd hg (h.nolook r ch)
  | handoff r ch hg hc =>
    -- ... and from the hand into its reply slot
    obtain ⟨tbl, chn, hand, res, own⟩ := h.at ch
    refine h.frame ch (by simp) (fun _ _ => rfl) (fun j => upd_other _ _ _ j) (fun _ _ _ => .rfl)
      (fun j hj r' => by simp [hg, Ne.symm hj]) ?_
    constructor <;> simp <;> try assumption
    case chn => exact hand r hg

theorem inv_run (ls : List Lbl) (s s' : S) (h : PInv s) (hr : runL true s ls = some s') : PInv s' :=
  runL_preserves inv_step ls s s' h hr

/-- C05 `own_response_only` in every reachable state: whatever the incoming responses and the schedule. -/
theorem c05_own (inc : List Resp) (ls : List Lbl) (s : S) (hr : runL true (init inc) ls = some s)
    (i : Nat) (r : Resp) (hd : (s.caller i).pc = .done (.resp r)) : r.id = (s.caller i).id :=
  own_response_only s (inv_run ls _ _ (inv_init inc) hr) i r hd

/-- C05 (stream): when the receiver puts a response on the stream, every registered or waiting call
    with that id already has an answer in its reply channel. -/
theorem c05_stream (s s' : S) (h : PInv s) (r rest) (hi : s.incoming = r :: rest) (hidle : s.rcv = .idle)
    (hs : step true s .rcvLookup = some s') (hst : s'.stream = s.stream ++ [r]) :
    ∀ i, (s.caller i).id = r.id → ((s.caller i).pc = .registered ∨ (s.caller i).pc = .waiting) → ∃ r', s.chan i = some r' := by
  intro i hid hpc
  have := h.own i hpc
  simp only [step, hidle, hi] at hs
  rcases this with ht | hc | hd
  · rw [hid] at ht; simp [ht] at hs; cases hs; simp at hst
  · exact hc
  · obtain ⟨r', hr'⟩ := hd; rw [hidle] at hr'; cases hr'

/-- **C05 (no lost response)**: in every reachable state a registered or waiting call is reachable
through the table, or its answer is already in its reply channel or in the receiver's hand. -/
theorem waiting_call_reachable (inc : List Resp) (ls : List Lbl) (s : S) (hr : runL true (init inc) ls = some s)
    (i : Nat) (h : (s.caller i).pc = .registered ∨ (s.caller i).pc = .waiting) :
    s.table (s.caller i).id = some i ∨ (∃ r, s.chan i = some r) ∨ (∃ r, s.rcv = .deleted r i) :=
  (inv_run ls _ _ (inv_init inc) hr).own i h

/-- a response whose id has no registration goes to the stream -/
theorem unregistered_to_stream (s : S) (r : Resp) (rest : List Resp) (hi : s.incoming = r :: rest)
    (hidle : s.rcv = .idle) (ht : s.table r.id = none) :
    step true s .rcvLookup = some { s with incoming := rest, stream := s.stream ++ [r] } := by
  simp [step, hidle, hi, ht]

/-- **C05 (duplicate id)**: registering an id that is registered is rejected and leaves the table
and the reply channels untouched. -/
theorem duplicate_id_rejected (s : S) (i j : Nat) (hs : (s.caller i).pc = .start)
    (ht : s.table (s.caller i).id = some j) :
    step true s (.register i) = some (setPC s i (.done .rejected)) ∧
    (setPC s i (.done .rejected)).table = s.table ∧ (setPC s i (.done .rejected)).chan = s.chan := by
  simp [step, hs, ht, setPC]

theorem PInv.slot_free {s : S} (h : PInv s) (id : Nat)
    (hfree : ∀ j, (s.caller j).id = id →
      (s.caller j).pc = .absent ∨ (s.caller j).pc = .start ∨ ∃ res, (s.caller j).pc = .done res) :
    s.table id = none := by
  cases ht : s.table id with
  | none => rfl
  | some j =>
    obtain ⟨hid, hp⟩ := h.tbl id j ht
    rcases hfree j hid with e | e | ⟨res, e⟩ <;> rcases hp with hp | hp | ⟨r, hp⟩ <;> rw [e] at hp <;> cases hp

/-- **C05 (no leak)**: when every call has returned (or was never started) the table is empty. -/
theorem table_empty_at_quiescence (inc : List Resp) (ls : List Lbl) (s : S)
    (hr : runL true (init inc) ls = some s)
    (hq : ∀ i, (s.caller i).pc = .absent ∨ (s.caller i).pc = .start ∨ ∃ res, (s.caller i).pc = .done res) :
    ∀ id, s.table id = none :=
  fun id => (inv_run ls _ _ (inv_init inc) hr).slot_free id fun j _ => hq j

/-- **C05 (identifiers are reusable)**: once no call under an id is between registration and
clean-up, a new call under that id registers successfully. -/
theorem id_reusable_after_completion (inc : List Resp) (ls : List Lbl) (s : S)
    (hr : runL true (init inc) ls = some s) (i : Nat) (hs : (s.caller i).pc = .start)
    (hfree : ∀ j, (s.caller j).id = (s.caller i).id →
      (s.caller j).pc = .absent ∨ (s.caller j).pc = .start ∨ ∃ res, (s.caller j).pc = .done res) :
    step true s (.register i) =
      some (setPC { s with table := upd s.table (s.caller i).id (some i) } i .registered) := by
  simp [step, hs, (inv_run ls _ _ (inv_init inc) hr).slot_free _ hfree]

end Props.C05
