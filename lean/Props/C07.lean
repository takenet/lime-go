import Props.HsInv
/-!
# C07 — the server handshake follows the protocol order and fails closed
(and C09's server half: the offer is the intersection, only an offered pair is confirmed)

Every trace of `ServerHs.run` is a word of the protocol automaton `ServerSpec.stepPhase`: the
`phase` part of the handshake invariant (`Props.Hs.run_inv`).
-/
namespace Props.C07
open LimeModel LimeModel.ServerHs LimeModel.ServerSpec

/-- **C07 (and C09, server half)**: for every configuration, client script, callback outcome
sequence, pattern of failing sends, `SetEncryption` outcome and initial encryption, the observable
trace of the server handshake is a word of the protocol automaton: session envelopes appear in
protocol order, each stamped with the session id and the server's node; the offered options are
exactly the configured options the connection supports; only an offered compression/encryption
pair is confirmed; after a violation by the client (first envelope not a fresh `new`, wrong id,
out-of-order state, option or scheme not offered) nothing but a `failed` session carrying a reason
is emitted, and nothing after that; `established` is emitted only after `Authenticate`
returned a known role for the client's latest envelope and `Register` supplied the announced node. -/
theorem emission_order (c : Cfg) (recvs : List Recv) (auths : List AuthOut) (regs : List (Option Node))
    (sendOk : List Bool) (setEncOk : Bool) (enc0 : Opt) :
    orderRev c (obs (run c recvs auths regs sendOk setEncOk enc0).trace.reverse) = true := by
  obtain ⟨p, h, _⟩ := Hs.run_inv c recvs auths regs sendOk setEncOk enc0
  rw [orderRev, h.phase]; rfl

/-- a successful `EstablishSession` that ends established has sent the established envelope last
(phase `established`); one that ends failed has sent the `failed` envelope last (phase `term`) -/
theorem success_is_terminal (c : Cfg) (recvs : List Recv) (auths : List AuthOut) (regs : List (Option Node))
    (sendOk : List Bool) (setEncOk : Bool) (enc0 : Opt) :
    let r := run c recvs auths regs sendOk setEncOk enc0
    (r.ok = true → r.final.state = .established → phaseOf c (obs r.trace.reverse) = some .established) ∧
    (r.ok = true → r.final.state = .failed → phaseOf c (obs r.trace.reverse) = some .term) := by
  obtain ⟨p, h, hok⟩ := Hs.run_inv c recvs auths regs sendOk setEncOk enc0
  exact ⟨fun a b => by rw [h.phase, (hok a).1 b], fun a b => by rw [h.phase, (hok a).2.1 b]⟩

end Props.C07
