import LimeModel.Lemmas.Doc
import LimeModel.Lemmas.Text
/-!
# C02 — decoding untrusted input never panics, and what it accepts is in the grammar

Both halves are one statement per decoder step: `x.Sat P` (`x` does not panic, and what it returns
satisfies `P`). It is proved once per primitive of `LimeModel.Json`, carried through `foldVals` and
`bind`, and read off at the top as `decode_never_panics` and as the `RawGood` / `Doc.wf` /
`Envelope.wfT` post-conditions that C02Stable and C02Typed compose with the C01 round trip.
-/
namespace Props.C02
open LimeModel LimeModel.Json LimeModel.Outcome

def OptP {α} (P : α → Prop) (o : Option α) : Prop := ∀ a, o = some a → P a

theorem OptP.none {α} {P : α → Prop} : OptP P none := fun _ h => nomatch h
theorem OptP.some {α} {P : α → Prop} {a : α} (h : P a) : OptP P (some a) := fun _ e => Option.some.inj e ▸ h

theorem OptP.optWf {α} {P : α → Prop} {f : α → Bool} {o : Option α} (h : OptP P o) (hf : ∀ a, P a → f a = true) :
    optWf f o = true := by
  cases o with
  | none => rfl
  | some a => exact hf a (h a rfl)

/-- every character of `p` occurs in `s` and is not `sep`: what holds of a piece of `splitOn sep s` -/
def Within (sep : Char) (s p : Str) : Prop := ∀ c ∈ p, c ∈ s ∧ c ≠ sep

theorem within_nil {sep : Char} {s : Str} : Within sep s [] := fun _ h => nomatch h

theorem Within.tail {sep d : Char} {s p : Str} (h : Within sep s p) : Within sep (d :: s) p :=
  fun c hc => ⟨List.mem_cons_of_mem _ (h c hc).1, (h c hc).2⟩

theorem within_of_mem {sep : Char} {s p : Str} (hp : p ∈ splitOn sep s) : Within sep s p := by
  fun_induction splitOn sep s generalizing p with
  | case1 => cases List.mem_singleton.1 hp; exact within_nil  -- s = []
  | case2 t ih =>  -- s = sep :: t
    cases hp with
    | head => exact within_nil
    | tail _ h => exact (ih h).tail
  | case3 d t hd hs ih => exact absurd hs (splitOn_ne_nil sep t)
  | case4 d t hd h r hs ih =>  -- s = d :: t with d ≠ sep, and h is the first piece of t
    rw [hs] at ih
    cases hp with
    | tail _ hp' => exact (ih (List.mem_cons_of_mem _ hp')).tail
    | head =>
      intro c hc
      cases hc with
      | head => exact ⟨List.mem_cons_self .., hd⟩
      | tail _ hc' => exact (ih (List.mem_cons_self ..)).tail c hc'

theorem within_getD (sep : Char) (s : Str) (i : Nat) : Within sep s ((splitOn sep s).getD i []) := by
  by_cases h : i < (splitOn sep s).length
  · exact within_of_mem (by simp [List.getD, h])
  · simp [List.getD, h, within_nil]

theorem ite_length_getD {α} (l : List (List α)) (i : Nat) : (if l.length > i then l.getD i [] else []) = l.getD i [] := by
  split
  · rfl
  · simp [List.getD, *]

theorem noSep_of_within {sep : Char} {s p : Str} (h : Within sep s p) : noSep [sep] p = true :=
  noSep_iff.2 fun c hc => by simpa using (h c hc).2

theorem noSep_of_within₂ {a b : Char} {s s' p : Str} (h : Within a s p) (hs : Within b s' s) :
    noSep [a, b] p = true :=
  noSep_iff.2 fun c hc => by simpa using ⟨(h c hc).2, (hs c (h c hc).1).2⟩

theorem parseNode_wf (s : Str) : (parseNode s).wf = true := by
  have hh := within_getD '/' s 0
  have ha (i) := noSep_of_within₂ (within_getD '@' ((splitOn '/' s).getD 0 []) i) hh
  simp only [Node.wf, parseNode, parseIdentity, Bool.and_eq_true, List.headD_eq_getD, ite_length_getD]
  exact ⟨⟨ha 0, ha 1⟩, noSep_of_within (within_getD '/' s 1)⟩

theorem parseMT_wf (s : Str) (m : MT) (h : parseMT s = some m) : m.wf = true := by
  have hh := within_getD '+' s 0
  have hs (i) := noSep_of_within₂ (within_getD '/' ((splitOn '+' s).getD 0 []) i) hh
  simp only [parseMT, List.headD_eq_getD, ite_length_getD] at h
  split at h
  · cases h
  · rename_i hcond
    cases h
    simp only [not_or] at hcond
    simp only [MT.wf, Bool.and_eq_true, Bool.not_eq_true', List.isEmpty_eq_false_iff]
    exact ⟨⟨⟨⟨hcond.2.1, hcond.2.2⟩, hs 0⟩, hs 1⟩, noSep_of_within (within_getD '+' s 1)⟩

theorem dedupKeys_sublist {α} (l : List (Str × α)) : (dedupKeys l).Sublist l := by
  fun_induction dedupKeys l with
  | case1 => exact .slnil
  | case2 k v t _ ih => exact ih.cons _
  | case3 k v t _ ih => exact ih.cons_cons _

theorem keysDistinct_dedupKeys {α} (kvs : List (Str × α)) : keysDistinct (dedupKeys kvs) = true := by
  fun_induction dedupKeys kvs with
  | case1 => rfl
  | case2 k v t _ ih => exact ih
  | case3 k v t hk ih =>  -- `k` is kept: it is not a key of `t`, hence not of what is kept of `t`
    simp only [keysDistinct, Bool.and_eq_true, Bool.not_eq_true']
    refine ⟨List.any_eq_false.2 fun p hp => ?_, ih⟩
    exact List.any_eq_false.1 (Bool.not_eq_true _ ▸ hk) p ((dedupKeys_sublist t).subset hp)

theorem isNormKvs_iff (kvs : List (Str × Json)) :
    Json.isNormKvs kvs = true ↔ ∀ p ∈ kvs, Json.isNorm p.2 = true := by
  induction kvs with
  | nil => simp [Json.isNormKvs]
  | cons a t ih => rw [Json.isNormKvs, Bool.and_eq_true, ih, List.forall_mem_cons]

theorem isNormKvs_dedupKeys (kvs : List (Str × Json)) (h : Json.isNormKvs kvs = true) :
    Json.isNormKvs (dedupKeys kvs) = true := by
  rw [isNormKvs_iff] at *
  exact fun p hp => h p ((dedupKeys_sublist kvs).subset hp)

mutual
theorem isNorm_norm : (j : Json) → Json.isNorm (Json.norm j) = true
  | .null => rfl
  | .bool _ => rfl
  | .num _ => rfl
  | .str _ => rfl
  | .arr l => by simp only [Json.norm, Json.isNorm]; exact isNormList_normList l
  | .obj kvs => by
    simp only [Json.norm, Json.isNorm, Bool.and_eq_true]
    exact ⟨keysDistinct_dedupKeys _, isNormKvs_dedupKeys _ (isNormKvs_normKvs kvs)⟩
theorem isNormList_normList : (l : List Json) → Json.isNormList (Json.normList l) = true
  | [] => rfl
  | j :: t => by simp only [Json.normList, Json.isNormList, Bool.and_eq_true]; exact ⟨isNorm_norm j, isNormList_normList t⟩
theorem isNormKvs_normKvs : (kvs : List (Str × Json)) → Json.isNormKvs (Json.normKvs kvs) = true
  | [] => rfl
  | (k, v) :: t => by simp only [Json.normKvs, Json.isNormKvs, Bool.and_eq_true]; exact ⟨isNorm_norm v, isNormKvs_normKvs t⟩
end

theorem intoString_sat (c : Str) (v : Json) : (intoString c v).Sat fun _ => True := by
  cases v <;> trivial

theorem intoInt_sat {c : Int} (hc : int64 c = true) (v : Json) : (intoInt c v).Sat (int64 · = true) := by
  unfold intoInt
  split
  · split
    · rename_i h; simp [int64, h.1, h.2]
    · trivial
  · exact hc
  · trivial

theorem ptrText_sat {α} {P : α → Prop} {parse : Str → Option α} (hp : ∀ s a, parse s = some a → P a)
    (c : Option α) (v : Json) : (ptrText parse c v).Sat (OptP P) := by
  unfold ptrText
  split
  · split
    · rename_i h; exact OptP.some (hp _ _ h)
    · trivial
  · exact OptP.none
  · trivial

theorem ptrString_sat (c : Option Str) (v : Json) : (ptrString c v).Sat fun _ => True := by
  cases v <;> trivial

theorem elemsOver_sat : ∀ (old : List Str) (l : List Json), (elemsOver old l).Sat fun _ => True
  | _, [] => trivial
  | old, v :: t => (intoString_sat _ v).bind fun _ _ => (elemsOver_sat old.tail t).bind fun _ _ => trivial

theorem sliceString_sat (c : Option (List Str)) (v : Json) : (sliceString c v).Sat fun _ => True := by
  cases v with
  | arr l => exact (elemsOver_sat _ l).bind fun _ _ => trivial
  | _ => trivial

theorem foldVals_sat_true {α} {assign : α → Json → Outcome α} (h : ∀ a v, (assign a v).Sat fun _ => True)
    (a : α) (vals : List Json) : (foldVals assign a vals).Sat fun _ => True :=
  foldVals_sat (fun a v _ _ => h a v) trivial

theorem fold_ptrText_sat {α} {P : α → Prop} {parse : Str → Option α} (hp : ∀ s a, parse s = some a → P a)
    (vals : List Json) : (foldVals (ptrText parse) none vals).Sat (OptP P) :=
  foldVals_sat (fun c v _ _ => ptrText_sat hp c v) OptP.none

theorem itemsField_sat (kvs : List (Str × Json)) : (itemsField kvs).Sat fun _ => True :=
  foldVals_sat_true (fun _ v => by cases v <;> trivial) _ _

theorem Doc.decList_sat {t : MT} : ∀ {js : List Json}, (∀ j ∈ js, (Doc.dec j t).Sat (Doc.wf t · = true)) →
    (Doc.decList js t).Sat (Doc.wfList t · = true)
  | [], _ => by rw [Doc.decList]; rfl
  | j :: rest, h => by
    by_cases hj : j = .null
    · subst hj; rw [Doc.decList]; trivial
    · rw [Doc.decList_cons hj]
      refine (h j (List.mem_cons_self ..)).bind fun d hd =>
        (Doc.decList_sat fun j hj => h j (List.mem_cons_of_mem _ hj)).bind fun ds hds => ?_
      simp [Doc.wfList, hd, hds]

theorem Doc.dec_sat (j : Json) (t : MT) : (Doc.dec j t).Sat (Doc.wf t · = true) := by
  induction hn : sizeOf j using Nat.strongRecOn generalizing j t with | _ n ih
  subst hn
  rw [Doc.dec_eq]
  split  -- the six rows of `Doc.dec_eq`: text, generic JSON, ping, container, collection, anything else
  · rename_i hf; simp [Doc.wf, hf]
  · rename_i hf; simp [Doc.wf, hf, keysDistinct_dedupKeys, isNormKvs_dedupKeys _ (isNormKvs_normKvs _)]
  · rename_i hf; simp [Doc.wf, hf]
  · rename_i kvs hf
    refine (fold_ptrText_sat parseMT_wf _).bind fun ot hot => (ofOption_sat ot).bind fun t' ht' =>
      (ofOption_sat _).bind fun v hv => (ih _ (lt_sizeOf_obj (sizeOf_lt_of_rawLast hv)) v t' rfl).bind fun d hd => ?_
    simp [Doc.wf, hf, hot t' ht', hd]
  · rename_i kvs hf
    refine (foldVals_sat (fun _ v _ h => intoInt_sat h v) (by decide)).bind fun total htot =>
      (fold_ptrText_sat parseMT_wf _).bind fun oit hoit => (itemsField_sat kvs).and_eq_ok.bind fun items hi =>
      (ofOption_sat oit).bind fun it hit => ?_
    split
    · simp [Doc.wf, Doc.wfItems, hf, htot, hoit it hit]
    · rename_i l
      have lt {j} (hj : j ∈ l) := lt_sizeOf_obj (Nat.lt_trans (sizeOf_lt_of_mem hj) (itemsField_sizeOf hi.1))
      refine (Doc.decList_sat fun j hj => ih _ (lt hj) j it rfl).bind fun ds hds => ?_
      simp [Doc.wf, Doc.wfItems, hf, htot, hoit it hit, hds]
  · trivial

theorem Doc.dec_no_panic (j : Json) (t : MT) : Doc.dec j t ≠ .panic := (Doc.dec_sat j t).ne_panic

theorem Doc.dec_wf (j : Json) (t : MT) (d : Doc) (h : Doc.dec j t = .ok d) : Doc.wf t d = true :=
  (Doc.dec_sat j t).of_ok h

theorem metaElems_sat : ∀ kvs : List (Str × Json), (metaElems kvs).Sat fun _ => True
  | [] => trivial
  | (_, v) :: t => by
    unfold metaElems
    cases v with
    | str _ | null => exact (metaElems_sat t).bind fun _ _ => trivial
    | _ => trivial

theorem assignMeta_sat (c : Option (List (Str × Str))) (v : Json) :
    (assignMeta c v).Sat (OptP fun kvs => keysDistinct kvs = true) := by
  cases v with
  | obj kvs => exact (metaElems_sat kvs).bind fun _ _ => OptP.some (keysDistinct_dedupKeys _)
  | null => exact OptP.none
  | _ => trivial

theorem assignReason_sat {c : Option Reason} (hc : OptP (fun x => int64 x.code = true) c) (v : Json) :
    (assignReason c v).Sat (OptP fun x => int64 x.code = true) := by
  have h0 : int64 (c.getD ⟨0, []⟩).code = true := by
    cases c with
    | none => decide
    | some x => exact hc x rfl
  cases v with
  | obj kvs =>
    exact (foldVals_sat (fun _ v _ h => intoInt_sat h v) h0).bind fun _ hcode =>
      (foldVals_sat_true intoString_sat _ _).bind fun _ _ => OptP.some hcode
  | null => exact OptP.none
  | _ => trivial

/-- the URL library's parse-then-print is idempotent: what it printed it parses back to the same text -/
def UIdem (U : Str → Option Str) : Prop := ∀ s u, U s = some u → U u = some u

/-- what `Raw.ofJson` guarantees of the struct it fills, before `norm`: the decoding-side counterpart of
`Raw.Wf`, with `OptP` (a proposition) where that has `optWf` -/
structure RawGood (U : Str → Option Str) (r : Raw) : Prop where
  from_ : OptP (fun n => n.wf = true) r.from_
  pp : OptP (fun n => n.wf = true) r.pp
  to : OptP (fun n => n.wf = true) r.to
  metadata : OptP (fun kvs => keysDistinct kvs = true) r.metadata
  reason : OptP (fun x => int64 x.code = true) r.reason
  type : OptP (fun m => m.wf = true) r.type
  event : OptP (fun s => notificationEvents.contains s = true) r.event
  method : OptP (fun s => commandMethods.contains s = true) r.method
  state : OptP (fun s => sessionStates.contains s = true) r.state
  uri : OptP (fun u => U u = some u) r.uri

theorem parseNodeSome_wf (s : Str) (n : Node) (h : parseNodeSome s = some n) : n.wf = true :=
  Option.some.inj h ▸ parseNode_wf s

theorem parseEnum_mem (members : List Str) (s a : Str) (h : parseEnum members s = some a) :
    members.contains a = true := by
  unfold parseEnum at h
  split at h
  · cases h; assumption
  · cases h

/-- `UIdem U →` stands inside `Sat`, so that panic-freedom (`.ne_panic`) holds of every `U` -/
theorem Raw.ofJson_sat (U : Str → Option Str) (j : Json) :
    (Raw.ofJson U j).Sat fun r => UIdem U → RawGood U r := by
  have str {a : Str} {vals} := foldVals_sat_true intoString_sat a vals
  have ptr {vals} := foldVals_sat_true ptrString_sat none vals
  have slice {vals} := foldVals_sat_true sliceString_sat none vals
  have node {vals} := fold_ptrText_sat parseNodeSome_wf vals
  have enum {members vals} := fold_ptrText_sat (parseEnum_mem members) vals
  unfold Raw.ofJson
  split  -- `null` (the zero struct), an object, anything else
  · exact fun _ => ⟨.none, .none, .none, .none, .none, .none, .none, .none, .none, .none⟩
  · refine str.bind fun id _ => node.bind fun from_ hfrom => node.bind fun pp hpp => node.bind fun to hto =>
      (foldVals_sat (fun c v _ _ => assignMeta_sat c v) OptP.none).bind fun metadata hmeta =>
      (foldVals_sat (fun _ v _ h => assignReason_sat h v) OptP.none).bind fun reason hreason =>
      (fold_ptrText_sat parseMT_wf _).bind fun type htype =>
      enum.bind fun event hevent => enum.bind fun method hmethod =>
      (fold_ptrText_sat (P := fun u => ∃ s, U s = some u) (fun s _ h => ⟨s, h⟩) _).bind fun uri huri =>
      ptr.bind fun status _ => enum.bind fun state hstate =>
      slice.bind fun encOpts _ => ptr.bind fun enc _ => slice.bind fun compOpts _ => ptr.bind fun comp _ =>
      slice.bind fun schemeOpts _ => ptr.bind fun scheme _ => fun hU => ?_
    -- the decoded `uri` is in the range of `U`, hence a fixed point of an idempotent `U`
    exact ⟨hfrom, hpp, hto, hmeta, hreason, htype, hevent, hmethod, hstate,
      fun u hu => let ⟨s, hs⟩ := huri u hu; hU s u hs⟩
  · trivial

theorem Raw.ofJson_no_panic (U : Str → Option Str) (j : Json) : Raw.ofJson U j ≠ .panic :=
  (Raw.ofJson_sat U j).ne_panic

theorem Auth.ofJson_sat (sch : Str) (j : Json) : (Auth.ofJson sch j).Sat fun a => a.scheme = sch := by
  have str {vals} := foldVals_sat_true intoString_sat [] vals
  unfold Auth.ofJson
  refine sat_ite (fun h => ?_) fun _ => sat_ite (fun h => ?_) fun _ => sat_ite (fun h => ?_) fun _ =>
    sat_ite (fun h => ?_) fun _ => sat_ite (fun h => ?_) fun _ => trivial
  -- guest, transport, plain, key, external: each reads an object and returns its own constructor
  · cases j with | obj _ => exact h.symm | _ => trivial
  · cases j with | obj _ => exact h.symm | _ => trivial
  · cases j with | obj _ => exact str.bind fun _ _ => h.symm | _ => trivial
  · cases j with | obj _ => exact str.bind fun _ _ => h.symm | _ => trivial
  · cases j with | obj _ => exact str.bind fun _ _ => str.bind fun _ _ => h.symm | _ => trivial

theorem node_getD_wf (o : Option Node) (h : OptP (fun n => n.wf = true) o) : (o.getD Node.zero).wf = true := by
  cases o with
  | none => decide
  | some n => exact h n rfl

theorem env_norm_wf {U : Str → Option Str} {r : Raw} (g : RawGood U r) : (Env.ofRaw r).norm.wf = true := by
  simp only [Env.wf, Env.norm, Env.ofRaw, Bool.and_eq_true]
  refine ⟨⟨⟨node_getD_wf _ g.from_, node_getD_wf _ g.pp⟩, node_getD_wf _ g.to⟩, ?_⟩
  have gm := g.metadata
  cases hm : r.metadata with
  | none => rfl
  | some kvs =>
    cases kvs with
    | nil => rfl
    | cons a t => exact gm _ hm

theorem optsWf_norm (o : Option (List Str)) : optsWf (normOpts o) = true := by
  cases o with
  | none => rfl
  | some l => cases l <;> rfl

theorem Raw.kind_sat (r : Raw) : r.kind.Sat fun k =>
    (k = .request → r.uri.isSome = true) ∧ (k = .response → r.status.isSome = true) := by
  unfold Raw.kind
  exact sat_ite (fun h => sat_ok.2 ⟨fun _ => h.2, nofun⟩) fun _ =>
    sat_ite (fun h => sat_ok.2 ⟨nofun, fun _ => h.2⟩) fun _ =>
    sat_ite (fun _ => sat_ok.2 ⟨nofun, nofun⟩) fun _ => sat_ite (fun _ => sat_ok.2 ⟨nofun, nofun⟩) fun _ =>
    sat_ite (fun _ => sat_ok.2 ⟨nofun, nofun⟩) fun _ => trivial

theorem request_wf {U : Str → Option Str} {c : RequestCommand} (h : (Envelope.request c).wfT U = true)
    (hu : c.uri.isSome = true) : (Envelope.request c).wf U = true := by
  cases hc : c.uri with
  | none => simp [hc] at hu
  | some u => simpa only [Envelope.wfT, Envelope.wf, Command.resWf, optWf, hc] using h

theorem response_wf {U : Str → Option Str} {c : ResponseCommand} (h : (Envelope.response c).wfT U = true)
    (hs : c.status ≠ []) : (Envelope.response c).wf U = true := by
  simp only [Envelope.wfT, Envelope.wf, Command.resWf, Bool.and_eq_true] at h ⊢
  exact ⟨⟨h.1, by simpa using hs⟩, h.2⟩

theorem Command.ofRaw_sat (U : Str → Option Str) (r : Raw) : (Command.ofRaw r).Sat fun c =>
    RawGood U r → (c.env.norm.wf && commandMethods.contains c.method && c.resWf) = true := by
  unfold Command.ofRaw
  -- `type` and `resource`, all that `resWf` reads, are decoded before `env` and `method` are there: hence `∀ env m`
  refine Sat.bind (P := fun p => ∀ env m, RawGood U r → (Command.mk env m p.1 p.2).resWf = true) ?_ fun p hp => ?_
  · split
    · exact fun _ _ _ => rfl
    · split
      · trivial
      · rename_i t ht
        exact (Doc.dec_sat _ t).bind fun d hd _ _ g => by simp [Command.resWf, g.type t ht, hd]
  · split
    · trivial
    · rename_i m hm
      exact fun g => Bool.and_eq_true_iff.2 ⟨Bool.and_eq_true_iff.2 ⟨env_norm_wf g, g.method m hm⟩, hp _ _ g⟩

theorem Message.ofRaw_sat (U : Str → Option Str) (r : Raw) : (Message.ofRaw r).Sat fun m =>
    RawGood U r → (Envelope.message m).norm.wf U = true := by
  unfold Message.ofRaw
  split
  · trivial
  · rename_i t ht
    split
    · trivial
    · refine (Doc.dec_sat _ t).bind fun d hd g => ?_
      simp only [Envelope.norm, Envelope.wf, Bool.and_eq_true]
      exact ⟨⟨env_norm_wf g, g.type t ht⟩, hd⟩

theorem Notification.ofRaw_sat (U : Str → Option Str) (r : Raw) : (Notification.ofRaw r).Sat fun n =>
    RawGood U r → (Envelope.notification n).norm.wf U = true := by
  unfold Notification.ofRaw
  split
  · trivial
  · rename_i ev hev
    intro g
    simp only [Envelope.norm, Envelope.wf, Bool.and_eq_true]
    exact ⟨⟨env_norm_wf g, g.event ev hev⟩, g.reason.optWf fun _ h => h⟩

theorem RequestCommand.ofRaw_sat (U : Str → Option Str) (r : Raw) : (RequestCommand.ofRaw r).Sat fun c =>
    RawGood U r → (Envelope.request c).norm.wfT U = true ∧ (r.uri.isSome = true → (Envelope.request c).norm.wf U = true) :=
  (Command.ofRaw_sat U r).bind fun c hc g =>
    have hT : (Envelope.request ⟨c, r.uri⟩).norm.wfT U = true := Bool.and_eq_true_iff.2 ⟨hc g, g.uri.optWf fun _ h => beq_iff_eq.2 h⟩
    ⟨hT, request_wf hT⟩

theorem ResponseCommand.ofRaw_sat (U : Str → Option Str) (r : Raw) : (ResponseCommand.ofRaw r).Sat fun c =>
    RawGood U r → (Envelope.response c).norm.wfT U = true ∧ (r.status.isSome = true → (Envelope.response c).norm.wf U = true) := by
  unfold ResponseCommand.ofRaw
  refine (Command.ofRaw_sat U r).bind fun c hc => ?_
  split
  · trivial
  · rename_i hne
    intro g
    have hT : (Envelope.response ⟨c, r.status.getD [], r.reason⟩).norm.wfT U = true :=
      Bool.and_eq_true_iff.2 ⟨hc g, g.reason.optWf fun _ h => h⟩
    refine ⟨hT, fun hs => response_wf hT fun h0 => hne ?_⟩
    cases hs' : r.status with
    | none => simp [hs'] at hs
    | some s => simpa [hs'] using h0

theorem Session.ofRaw_sat (U : Str → Option Str) (r : Raw) : (Session.ofRaw r).Sat fun s =>
    RawGood U r → (Envelope.session s).norm.wf U = true := by
  unfold Session.ofRaw
  refine Sat.bind (P := OptP fun a => r.scheme = some a.scheme) ?_ fun auth hauth => ?_
  · split
    · exact OptP.none
    · split
      · trivial
      · rename_i sch hsch
        exact (Auth.ofJson_sat sch _).bind fun a ha => OptP.some (by rw [hsch, ha])
  · split
    · trivial
    · rename_i st hst
      intro g
      simp only [Envelope.norm, Envelope.wf, Bool.and_eq_true]
      refine ⟨⟨⟨⟨⟨⟨env_norm_wf g, g.state st hst⟩, optsWf_norm _⟩, optsWf_norm _⟩, optsWf_norm _⟩,
        g.reason.optWf fun _ h => h⟩, ?_⟩
      cases auth with
      | none => rfl
      | some a => simp [hauth a rfl]

/-- Two grammars travel together: whatever a typed `populate` accepts is in `wfT`; it is in `wf` as well if `k` is the
kind the receive path would have found in `r` (a request then has its `uri`, a response its `status`). -/
theorem populate_sat (U : Str → Option Str) (k : Kind) (r : Raw) : (populate k r).Sat fun e =>
    e.kind = k ∧ (RawGood U r → e.norm.wfT U = true ∧ (r.kind = .ok k → e.norm.wf U = true)) := by
  cases k <;> unfold populate
  · exact (Message.ofRaw_sat U r).bind fun m hm => ⟨rfl, fun g => ⟨hm g, fun _ => hm g⟩⟩
  · exact (Notification.ofRaw_sat U r).bind fun m hm => ⟨rfl, fun g => ⟨hm g, fun _ => hm g⟩⟩
  · exact (RequestCommand.ofRaw_sat U r).bind fun m hm =>
      ⟨rfl, fun g => ⟨(hm g).1, fun hk => (hm g).2 (((Raw.kind_sat r).of_ok hk).1 rfl)⟩⟩
  · exact (ResponseCommand.ofRaw_sat U r).bind fun m hm =>
      ⟨rfl, fun g => ⟨(hm g).1, fun hk => (hm g).2 (((Raw.kind_sat r).of_ok hk).2 rfl)⟩⟩
  · exact (Session.ofRaw_sat U r).bind fun m hm => ⟨rfl, fun g => ⟨hm g, fun _ => hm g⟩⟩

theorem populate_no_panic (k : Kind) (r : Raw) : populate k r ≠ .panic :=
  (populate_sat (fun _ => none) k r).ne_panic -- `populate` does not take `U`: any instance will do

theorem decodeTyped_sat (U : Str → Option Str) (k : Kind) (j : Json) : (decodeTyped U k j).Sat fun e =>
    e.kind = k ∧ (UIdem U → e.norm.wfT U = true) :=
  (Raw.ofJson_sat U j).bind fun r hr => (populate_sat U k r).imp fun _ he => ⟨he.1, fun hU => (he.2 (hr hU)).1⟩

theorem decodeAny_sat (U : Str → Option Str) (j : Json) : (decodeAny U j).Sat fun e =>
    UIdem U → e.norm.wf U = true :=
  (Raw.ofJson_sat U j).bind fun r hr => (Raw.kind_sat r).and_eq_ok.bind fun k hk =>
    (populate_sat U k r).imp fun _ he hU => (he.2 (hr hU)).2 hk.1

/-- **C02 (never panics)**: for every JSON tree, every envelope kind and every behaviour of the URL
library, neither the typed decoders nor the transport receive path panic. -/
theorem decode_never_panics (U : Str → Option Str) (k : Kind) (j : Json) :
    decodeTyped U k j ≠ .panic ∧ decodeAny U j ≠ .panic :=
  ⟨(decodeTyped_sat U k j).ne_panic, (decodeAny_sat U j).ne_panic⟩

/-- A container without a `value` member made `UnmarshalDocument` dereference a nil `*json.RawMessage`
before the repair in lime-go (`nilRawDeref`); it is answered with an error. -/
example : Doc.dec (.obj [(cs!"type", .str cs!"text/plain")]) mtContainer = .err := by
  rw [Doc.dec_eq]; rfl

end Props.C02
