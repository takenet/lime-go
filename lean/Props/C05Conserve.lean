import Props.C05
/-!
# C05: no response is lost or retracted

The receiver takes responses off `incoming` one at a time. Every step of the model either leaves the
three places a response can be in on the receiver's side (`incoming`, the receiver's hand `rcv`, the
response `stream`) untouched, or moves exactly one response one place forward: from the head of
`incoming` to the end of the stream (it matched nothing) or into the receiver's hand (it matched a
pending request), and from the receiver's hand into the reply slot of the call it matched. Nothing is
dropped on the way and the stream only grows.
-/
namespace Props.C05
open LimeModel.Pending

/-- where a step moves a response -/
inductive Move (s s' : S) : Prop
  | none : s'.incoming = s.incoming → s'.stream = s.stream → s'.rcv = s.rcv → Move s s'
  | toStream (r : Resp) (rest : List Resp) :
      s.incoming = r :: rest → s'.incoming = rest → s'.stream = s.stream ++ [r] → s.rcv = .idle → s'.rcv = .idle →
      s.table r.id = Option.none → Move s s'
  | toHand (r : Resp) (rest : List Resp) (ch : Nat) :
      s.incoming = r :: rest → s'.incoming = rest → s'.stream = s.stream → s.rcv = .idle → s'.rcv = .deleted r ch →
      s.table r.id = some ch → Move s s'
  | handKept (r : Resp) (ch : Nat) :
      s.rcv = .lookedUp r ch → s'.rcv = .deleted r ch → s'.incoming = s.incoming → s'.stream = s.stream → Move s s'
  | toSlot (r : Resp) (ch : Nat) :
      s.rcv = .deleted r ch → s'.rcv = .idle → s'.chan ch = some r → s.chan ch = Option.none →
      s'.incoming = s.incoming → s'.stream = s.stream → Move s s'

/-- **C05 (nothing lost)**: every step of the repaired table is one of these moves. -/
theorem step_moves (s s' : S) (l : Lbl) (h : step true s l = some s') : Move s s' := by
  cases Step.of_step h with
  | toStream r rest hidle hin htab => exact .toStream r rest hin rfl rfl hidle hidle htab
  | toHand r rest ch hidle hin htab => exact .toHand r rest ch hin rfl rfl hidle rfl htab
  -- not reachable in the repaired table (`lookedUp` is never entered); the step itself loses nothing
  | rcvDelete r ch hr => exact .handKept r ch hr rfl rfl rfl
  | handoff r ch hr hc => exact .toSlot r ch hr rfl (upd_same ..) hc rfl rfl
  | _ => exact .none rfl rfl rfl

/-- Along every run of the repaired table, from every state: what the run adds to the response stream is a
sublist of the responses it took off `incoming` — none surfaced that did not arrive, none twice, arrival
order kept. -/
theorem stream_sublist_of_taken (ls : List Lbl) (s s' : S) (h : runL true s ls = some s') :
    ∃ taken more, s.incoming = taken ++ s'.incoming ∧ s'.stream = s.stream ++ more ∧ more.Sublist taken := by
  refine runL_preserves
    (P := fun c => ∃ taken more, s.incoming = taken ++ c.incoming ∧ c.stream = s.stream ++ more ∧ more.Sublist taken)
    (fun c c1 l ⟨taken, more, ht, hm, hsub⟩ hs => ?_) ls s s' ⟨[], [], rfl, (List.append_nil _).symm, .slnil⟩ h
  cases step_moves c c1 l hs with
  | toStream r rest hin hin' hst =>
    exact ⟨taken ++ [r], more ++ [r], by rw [ht, hin, hin']; simp, by rw [hst, hm]; simp, hsub.append (.refl _)⟩
  | toHand r rest _ hin hin' hst =>
    exact ⟨taken ++ [r], more, by rw [ht, hin, hin']; simp, by rw [hst, hm], hsub.trans (List.sublist_append_left ..)⟩
  | none hin hst | handKept _ _ _ _ hin hst | toSlot _ _ _ _ _ _ hin hst =>
    exact ⟨taken, more, by rw [hin, ht], by rw [hst, hm], hsub⟩

/-- the response stream is append-only along every run: what was surfaced stays surfaced, in order -/
theorem stream_append_only (ls : List Lbl) : ∀ (s s' : S), runL true s ls = some s' → ∃ more, s'.stream = s.stream ++ more :=
  fun s s' h => let ⟨_, more, _, hm, _⟩ := stream_sublist_of_taken ls s s' h; ⟨more, hm⟩

/-- responses are taken off `incoming` from the front only, one at a time -/
theorem incoming_consumed_in_order (ls : List Lbl) : ∀ (s s' : S), runL true s ls = some s' →
    ∃ taken, s.incoming = taken ++ s'.incoming :=
  fun s s' h => let ⟨taken, _, ht, _⟩ := stream_sublist_of_taken ls s s' h; ⟨taken, ht⟩

end Props.C05
