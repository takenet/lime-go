import LimeModel.ServerLife
import LimeModel.Lemmas.Run
/-!
# C18 — server start / stop is orderly under any timing

Over every interleaving of the start-up steps of `ListenAndServe`, the acceptors, the consumer, the
sub-steps of `Close`, handshakes in progress and established sessions, for any number of listeners
and sessions: the return value (`serve_returns_closed_error` and `returned_stable`, about one step;
`listeners_stopped`, from the invariant `Inv`), progress towards returning once `Close` has cancelled the server (`progress`,
`close_makes_serve_return`: a measure that some enabled step lowers), and the callback discipline
(`callbacks_paired`, `all_finished_at_quiescence`, from `CbInv`). The examples at the end show what the
tree before the repairs did.
-/
namespace Props.C18
open LimeModel.ServerLife

theorem upd_same {α} {f : Nat → α} {k : Nat} {v : α} : upd f k v k = v := by simp [upd]
theorem upd_other {α} {f : Nat → α} {k x : Nat} {v : α} (h : x ≠ k) : upd f k v x = f x := by simp [upd, h]

/-- The transitions of the server model, one constructor per label and branch, the guards split. `step` is
unfolded in `Step.of_step` only (`progress` exhibits steps of `step` itself, by `if_pos` on their guards).
Only `ret` depends on the variant `f`. -/
inductive Step (f : Bool) (s : St) : Lbl → St → Prop
  | publish : s.published = false → Step f s .publish { s with published := true }
  | startListener : s.published = true → s.started < s.n → s.returned = none →
      Step f s .startListener { s with lst := upd s.lst s.started .listening, acc := upd s.acc s.started .accepting, started := s.started + 1 }
  | spawnConsumer : s.published = true → s.started = s.n → s.cons = .notSpawned →
      Step f s .spawnConsumer { s with cons := .running }
  | connect (i) : i < s.n → s.lst i = .listening → s.acc i = .accepting → Step f s (.connect i) { s with acc := upd s.acc i .holding }
  | push (i) : i < s.n → s.acc i = .holding → s.queue < s.backlog + 1 →
      Step f s (.push i) { s with acc := upd s.acc i .accepting, queue := s.queue + 1 }
  | accExitCtx (i) : i < s.n → (s.acc i = .accepting ∨ s.acc i = .holding) → s.ctxDone = true →
      Step f s (.accExitCtx i) { s with acc := upd s.acc i (.exited true), groupCancelled := true, firstErr := keepFirst s.firstErr true }
  | accExitLst (i) : i < s.n → s.acc i = .accepting → s.lst i = .closed →
      Step f s (.accExitLst i) { s with acc := upd s.acc i (.exited false), groupCancelled := true, firstErr := keepFirst s.firstErr false }
  | take : s.cons = .running → 0 < s.queue →
      Step f s .take { s with queue := s.queue - 1, ses := upd s.ses s.nses .handshaking, nses := s.nses + 1 }
  | consumerExit : s.cons = .running → s.ctxDone = true → Step f s .consumerExit { s with cons := .exited }
  | closeCancel : s.published = true → s.cancelled = false → Step f s .closeCancel { s with cancelled := true }
  | closeLst : s.cancelled = true → s.closeAt < s.n →
      Step f s .closeLst { s with lst := upd s.lst s.closeAt (if s.lst s.closeAt = .listening then .closed else s.lst s.closeAt), closeAt := s.closeAt + 1 }
  | retCancelled : s.started = s.n → s.cons = .exited → allAccExited s = true → s.returned = none → f = true → s.cancelled = true →
      Step f s .ret { s with returned := some .serverClosed, lst := closeListeners s }
  | retFirst : s.started = s.n → s.cons = .exited → allAccExited s = true → s.returned = none → (f = true → s.cancelled = false) →
      Step f s .ret { s with returned := some (if s.firstErr = some true then .serverClosed else .listenerErr) }
  | hsOk (j) : s.ses j = .handshaking → Step f s (.hsOk j) { s with ses := upd s.ses j .established, trace := .est j :: s.trace }
  | hsFail (j) : s.ses j = .handshaking → Step f s (.hsFail j) { s with ses := upd s.ses j .released }
  | handle (j) : s.ses j = .established → Step f s (.handle j) { s with trace := .handler j :: s.trace }
  | finish (j) : s.ses j = .established → Step f s (.finish j) { s with ses := upd s.ses j .finished, trace := .fin j :: s.trace }

theorem Step.of_step {f : Bool} {s s' : St} {l : Lbl} (h : step f s l = some s') : Step f s l s' := by
  revert h
  -- one case per branch of `step`, in its order; the branches that return `none` go by `cases h`
  fun_cases step f s l <;> intro h <;> cases h
  next g => exact .publish (by simpa using g)
  next g => exact .startListener g.1 g.2.1 g.2.2
  next g => exact .spawnConsumer g.1 g.2.1 g.2.2
  next i g => exact .connect i g.1 g.2.1 g.2.2
  next i g => exact .push i g.1 g.2.1 g.2.2
  next i g => exact .accExitCtx i g.1 g.2.1 g.2.2
  next i g => exact .accExitLst i g.1 g.2.1 g.2.2
  next g => exact .take g.1 g.2
  next g => exact .consumerExit g.1 g.2
  next g => exact .closeCancel g.1 (by simpa using g.2)
  next g => exact .closeLst g.1 g.2
  next g hf hc => exact .retCancelled g.1 g.2.1 g.2.2.1 g.2.2.2 hf hc
  next g _ hc => exact .retFirst g.1 g.2.1 g.2.2.1 g.2.2.2 fun _ => by simpa using hc
  next g hf => exact .retFirst g.1 g.2.1 g.2.2.1 g.2.2.2 fun e => absurd e hf
  next j g => exact .hsOk j g
  next j g => exact .hsFail j g
  next j g => exact .handle j g
  next j g => exact .finish j g

theorem runL_preserves {f : Bool} {P : St → Prop} (hstep : ∀ s s1 l, P s → step f s l = some s1 → P s1) :
    ∀ ls s s', P s → runL f s ls = some s' → P s' :=
  LimeModel.run_preserves (fun _ => rfl) (fun s l ls => by simp only [runL]; cases step f s l <;> rfl) hstep

-- `ctxFirst` (and `grp`, which keeps it across `accExitCtx`) is there for `retFirst`, the return of a server that
-- `Close` has not cancelled: it cannot yield `serverClosed`, which would break the clause `retClosed` with listeners open.
structure Inv (s : St) : Prop where
  spawned : ∀ i, i < s.started → s.acc i ≠ .notSpawned
  unspawned : ∀ i, s.started ≤ i → s.acc i = .notSpawned
  startedLe : s.started ≤ s.n
  consSpawn : s.cons ≠ .notSpawned → s.started = s.n
  ctxFirst : s.firstErr = some true → s.cancelled = true
  retClosed : s.returned = some .serverClosed → ∀ i, i < s.n → s.lst i ≠ .listening
  retDone : s.returned ≠ none → s.started = s.n
  pubCancel : s.cancelled = true → s.published = true
  grp : s.groupCancelled = true → s.firstErr ≠ none

theorem inv_init (n b : Nat) : Inv (init n b) := by
  constructor <;> simp [init]

theorem Inv.acc_moves {s : St} (h : Inv s) {i : Nat} {v : AccPC} (hi : s.acc i ≠ .notSpawned) (hv : v ≠ .notSpawned) :
    (∀ k, k < s.started → upd s.acc i v k ≠ .notSpawned) ∧ (∀ k, s.started ≤ k → upd s.acc i v k = .notSpawned) := by
  refine ⟨fun k hk => ?_, fun k hk => ?_⟩ <;> by_cases e : k = i
  · rw [e, upd_same]; exact hv
  · rw [upd_other e]; exact h.spawned k hk
  · exact absurd (h.unspawned i (e ▸ hk)) hi
  · rw [upd_other e]; exact h.unspawned k hk

/-- Each label writes a few fields of the state and each clause of `Inv` reads a few: only the clauses listed
for a label need an argument, the others are carried over as they are (`{ h with .. }`). -/
theorem inv_step (s s' : St) (l : Lbl) (h : Inv s) (hs : step true s l = some s') : Inv s' := by
  cases Step.of_step hs with
  | publish _ => exact { h with pubCancel := fun _ => rfl }
  | startListener _ hlt hr =>
    exact { h with
      spawned := fun k (hk : k < s.started + 1) => show upd s.acc s.started .accepting k ≠ .notSpawned by
        by_cases e : k = s.started
        · rw [e, upd_same]; simp
        · rw [upd_other e]; exact h.spawned k (by omega)
      unspawned := fun k (hk : s.started + 1 ≤ k) => show upd s.acc s.started .accepting k = .notSpawned by
        rw [upd_other (by omega)]; exact h.unspawned k (by omega)
      startedLe := hlt
      consSpawn := fun hc => absurd (h.consSpawn hc) (by omega)
      retClosed := fun e => by rw [hr] at e; cases e
      retDone := fun e => absurd hr e }
  | spawnConsumer _ hn _ => exact { h with consSpawn := fun _ => hn }
  | connect i _ _ ha =>
    have := h.acc_moves (i := i) (v := .holding) (by simp [ha]) (by simp)
    exact { h with spawned := this.1, unspawned := this.2 }
  | push i _ ha _ =>
    have := h.acc_moves (i := i) (v := .accepting) (by simp [ha]) (by simp)
    exact { h with spawned := this.1, unspawned := this.2 }
  | accExitCtx i _ ha hd =>
    have := h.acc_moves (i := i) (v := .exited true) (by rcases ha with e | e <;> simp [e]) (by simp)
    -- the first error is the context's only if the context was done, and the group's own cancellation comes second
    exact { h with
      spawned := this.1, unspawned := this.2
      ctxFirst := fun e => by
        cases hf : s.firstErr with
        | some x => rw [hf] at e; exact h.ctxFirst (hf.trans e)
        | none =>
          simp only [St.ctxDone, Bool.or_eq_true] at hd
          exact hd.resolve_right fun g => h.grp g hf
      grp := fun _ => by cases hf : s.firstErr <;> simp [keepFirst] }
  | accExitLst i _ ha _ =>
    have := h.acc_moves (i := i) (v := .exited false) (by simp [ha]) (by simp)
    exact { h with
      spawned := this.1, unspawned := this.2
      ctxFirst := fun e => by
        cases hf : s.firstErr with
        | some x => rw [hf] at e; exact h.ctxFirst (hf.trans e)
        | none => rw [hf] at e; cases e
      grp := fun _ => by cases hf : s.firstErr <;> simp [keepFirst] }
  | consumerExit hc _ => exact { h with consSpawn := fun _ => h.consSpawn (by simp [hc]) }
  | closeCancel hp _ => exact { h with ctxFirst := fun _ => rfl, pubCancel := fun _ => hp }
  | closeLst _ _ =>
    exact { h with
      retClosed := fun e k hk => by
        dsimp only
        by_cases ek : k = s.closeAt
        · rw [ek, upd_same]; split <;> simp [*]
        · rw [upd_other ek]; exact h.retClosed e k hk }
  | retCancelled hn _ _ _ _ _ =>
    exact { h with
      retClosed := fun _ k (hk : k < s.n) => by simp only [closeListeners, hk, true_and]; split <;> simp [*]
      retDone := fun _ => hn }
  | retFirst hn _ _ _ hc =>
    exact { h with
      retClosed := fun e => by
        have : s.firstErr = some true := by
          by_cases g : s.firstErr = some true
          · exact g
          · simp [g] at e
        exact absurd (h.ctxFirst this) (by simp [hc rfl])
      retDone := fun _ => hn }
  -- `take` and the sessions' steps write `queue`, `ses`, `nses`, `trace` only
  | _ => exact { h with }

theorem inv_run (ls : List Lbl) (s s' : St) (h : Inv s) (hr : runL true s ls = some s') : Inv s' :=
  runL_preserves inv_step ls s s' h hr

/-- **C18 (return value)**: the return step of a server that `Close` has cancelled yields the
server-closed error. -/
theorem serve_returns_closed_error (s s' : St) (h : step true s .ret = some s') (hc : s.cancelled = true) :
    s'.returned = some .serverClosed := by
  cases Step.of_step h with
  | retCancelled => rfl
  | retFirst _ _ _ _ hn => rw [hn rfl] at hc; cases hc

theorem Step.returned {f : Bool} {s s' : St} {l : Lbl} (h : Step f s l s') :
    s'.returned = s.returned ∨ (l = .ret ∧ s.returned = none) := by
  cases h with
  | retCancelled _ _ _ hn | retFirst _ _ _ hn => exact .inr ⟨rfl, hn⟩
  | _ => exact .inl rfl

/-- the return value is final -/
theorem returned_stable (s s' : St) (l : Lbl) (r : Ret) (h : step true s l = some s')
    (hr : s.returned = some r) : s'.returned = some r := by
  rcases (Step.of_step h).returned with e | ⟨-, e⟩
  · rw [e, hr]
  · rw [e] at hr; cases hr

/-- **C18 (listeners stopped)**: in every reachable state in which `ListenAndServe` has returned the
server-closed error no listener is listening, whatever the order of `Close` and the start-up. -/
theorem listeners_stopped (n b : Nat) (ls : List Lbl) (s : St) (hr : runL true (init n b) ls = some s)
    (hret : s.returned = some .serverClosed) : ∀ i, i < s.n → s.lst i ≠ .listening :=
  (inv_run ls _ _ (inv_init n b) hr).retClosed hret

def accPending (s : St) (i : Nat) : Bool := match s.acc i with | .exited _ => false | _ => true

/-- how far `ListenAndServe` is from returning -/
def measure (s : St) : Nat :=
  (s.n - s.started) + (match s.cons with | .notSpawned => 2 | .running => 1 | .exited => 0) +
  ((List.range s.n).filter (accPending s)).length + (if s.returned = none then 1 else 0)

/-- an acceptor that has not exited, spawned or not: what `accPending` tests -/
def _root_.LimeModel.ServerLife.AccPC.pending : AccPC → Bool | .exited _ => false | _ => true

/-- `measure` reads the acceptors only through this count -/
def pend (n : Nat) (acc : Nat → AccPC) : Nat := ((List.range n).filter fun i => (acc i).pending).length

theorem measure_eq (s : St) : measure s = (s.n - s.started) +
    (match s.cons with | .notSpawned => 2 | .running => 1 | .exited => 0) + pend s.n s.acc +
    (if s.returned = none then 1 else 0) := rfl

theorem pend_upd {n : Nat} {acc : Nat → AccPC} {i : Nat} {v : AccPC} (h : v.pending = (acc i).pending) :
    pend n (upd acc i v) = pend n acc := by
  unfold pend; congr 1; apply List.filter_congr; intro j _
  by_cases e : j = i <;> simp [upd, e, h]

theorem pend_exit {n : Nat} {acc : Nat → AccPC} {i : Nat} (hi : i < n) (hp : (acc i).pending = true) (b : Bool) :
    pend n (upd acc i (.exited b)) + 1 = pend n acc := by
  -- the acceptors still pending are the same but for `i`, which was among them, once: `range` has no duplicates
  have hmem : i ∈ (List.range n).filter fun j => (acc j).pending := List.mem_filter.2 ⟨List.mem_range.2 hi, hp⟩
  have : ((List.range n).filter fun j => (upd acc i (.exited b) j).pending) =
      ((List.range n).filter fun j => (acc j).pending).erase i := by
    rw [(List.nodup_range.sublist List.filter_sublist).erase_eq_filter, List.filter_filter]
    refine List.filter_congr fun j _ => ?_
    by_cases e : j = i
    · rw [e, upd_same]; simp [AccPC.pending]
    · rw [upd_other e]; simp [e]
  rw [pend, this, List.length_erase_of_mem hmem]
  exact Nat.sub_add_cancel (List.length_pos_of_mem hmem)

/-- **C18 (progress)**: once `Close` has cancelled the server, `ListenAndServe` can always take a
step that brings it strictly closer to returning. -/
theorem progress (s : St) (h : Inv s) (hc : s.cancelled = true) (hr : s.returned = none) :
    ∃ l s', step true s l = some s' ∧ measure s' < measure s ∧ s'.cancelled = true := by
  have hd : s.ctxDone = true := by simp [St.ctxDone, hc]
  -- the label is named, its guard shown (`if_pos`); the new state is then the one `step` gives
  by_cases hst : s.started < s.n
  · refine ⟨.startListener, _, if_pos ⟨h.pubCancel hc, hst, hr⟩, ?_, hc⟩
    -- an acceptor counts as pending before it is spawned too
    have := pend_upd (n := s.n) (acc := s.acc) (i := s.started) (v := .accepting)
      (by rw [h.unspawned _ (Nat.le_refl _)]; rfl)
    simp only [measure_eq]; omega
  have hn : s.started = s.n := by have := h.startedLe; omega
  cases hcs : s.cons with
  | notSpawned =>
    refine ⟨.spawnConsumer, _, if_pos ⟨h.pubCancel hc, hn, hcs⟩, ?_, hc⟩
    simp only [measure_eq, hcs]; omega
  | running =>
    refine ⟨.consumerExit, _, if_pos ⟨hcs, hd⟩, ?_, hc⟩
    simp only [measure_eq, hcs]; omega
  | exited =>
    cases hall : allAccExited s with
    | true =>
      refine ⟨.ret, _, (if_pos ⟨hn, hcs, hall, hr⟩).trans (if_pos hc), ?_, hc⟩
      simp [measure_eq, hr]
    | false =>
      -- some acceptor has not exited: it is spawned, so it can see the cancelled context and exit
      obtain ⟨i, hi, hpi⟩ := List.all_eq_false.1 hall
      have hi := List.mem_range.1 hi
      have hstate : s.acc i = .accepting ∨ s.acc i = .holding := by
        have := h.spawned i (by omega)
        cases ha : s.acc i <;> simp_all
      refine ⟨.accExitCtx i, _, if_pos ⟨hi, hstate, hd⟩, ?_, hc⟩
      have := pend_exit (acc := s.acc) hi (by rcases hstate with e | e <;> rw [e] <;> rfl) true
      simp only [measure_eq]; omega

/-- **C18 (Close makes the serve call return)**: from every state in which `Close` has cancelled the
server and `ListenAndServe` has not returned there is a continuation after which it has returned the
server-closed error (`m` is the bound the induction runs on). The proof builds it from `progress`: at most
`measure s` steps, all of them steps of `ListenAndServe`'s own goroutines; the statement does not say so. -/
theorem close_makes_serve_return : ∀ (m : Nat) (s : St), Inv s → s.cancelled = true → s.returned = none →
    measure s ≤ m → ∃ ls s', runL true s ls = some s' ∧ s'.returned = some .serverClosed := by
  intro m
  induction m with
  | zero => intro s _ _ hr hm; simp [measure, hr] at hm
  | succ m ih =>
    intro s h hc hr hm
    obtain ⟨l, s1, hs, hlt, hc1⟩ := progress s h hc hr
    cases hr1 : s1.returned with
    | none =>
      obtain ⟨ls, s', hrun, hret⟩ := ih s1 (inv_step s s1 l h hs) hc1 hr1 (by omega)
      exact ⟨l :: ls, s', by simp [runL, hs, hrun], hret⟩
    | some r =>
      -- the return value was written by this step, so the step was `ret`, taken with the server cancelled
      rcases (Step.of_step hs).returned with e | ⟨rfl, -⟩
      · rw [e, hr] at hr1; cases hr1
      · exact ⟨[.ret], s1, by simp [runL, hs], serve_returns_closed_error s s1 hs hc⟩

structure CbInv (s : St) : Prop where
  paired : pairedRev s.trace = true
  quiet : ∀ j, (s.ses j = .none ∨ s.ses j = .handshaking ∨ s.ses j = .released) →
    (Ev.est j ∉ s.trace ∧ Ev.fin j ∉ s.trace ∧ Ev.handler j ∉ s.trace)
  est : ∀ j, s.ses j = .established → (Ev.est j ∈ s.trace ∧ Ev.fin j ∉ s.trace)
  fin : ∀ j, s.ses j = .finished → (Ev.est j ∈ s.trace ∧ Ev.fin j ∈ s.trace)
  fresh : ∀ j, s.nses ≤ j → s.ses j = .none

theorem cb_init (n b : Nat) : CbInv (init n b) := by
  constructor <;> simp [init, pairedRev]

/-- what the log must hold of session `j` when it is in state `pc` (`CbInv.quiet`, `.est`, `.fin` in one) -/
def logged (tr : List Ev) (j : Nat) : SesPC → Prop
  | .established => Ev.est j ∈ tr ∧ Ev.fin j ∉ tr
  | .finished => Ev.est j ∈ tr ∧ Ev.fin j ∈ tr
  | _ => Ev.est j ∉ tr ∧ Ev.fin j ∉ tr ∧ Ev.handler j ∉ tr

theorem CbInv.at {s : St} (h : CbInv s) (j : Nat) : logged s.trace j (s.ses j) := by
  cases e : s.ses j
  case established => exact h.est j e
  case finished => exact h.fin j e
  all_goals exact h.quiet j (by simp [e])

theorem CbInv.of_logged {s : St} (hp : pairedRev s.trace = true) (hl : ∀ j, logged s.trace j (s.ses j))
    (hf : ∀ j, s.nses ≤ j → s.ses j = .none) : CbInv s :=
  ⟨hp, fun j e => by have := hl j; rcases e with e | e | e <;> rwa [e] at this,
   fun j e => by have := hl j; rwa [e] at this, fun j e => by have := hl j; rwa [e] at this, hf⟩

def _root_.LimeModel.ServerLife.Ev.ses : Ev → Nat | .est i | .fin i | .handler i => i

/-- Session `j` moves on, logging `ev`: the sessions `k ≠ j` keep their state, and the log holds of them what
it held. So `pairedRev` of the new log and `logged` of `j` are all that a step has to show. -/
theorem CbInv.frame {s s' : St} (h : CbInv s) (j : Nat) {ev : List Ev} (hev : ∀ e ∈ ev, e.ses = j)
    (htr : s'.trace = ev ++ s.trace) (hses : ∀ k, k ≠ j → s'.ses k = s.ses k)
    (hn : ∀ k, s'.nses ≤ k → s.nses ≤ k ∧ k ≠ j)
    (hp : pairedRev s'.trace = true) (hj : logged s'.trace j (s'.ses j)) : CbInv s' := by
  refine .of_logged hp (fun k => ?_) (fun k hk => by rw [hses k (hn k hk).2]; exact h.fresh k (hn k hk).1)
  by_cases e : k = j
  · exact e ▸ hj
  · have mem : ∀ x : Ev, x.ses = k → (x ∈ s'.trace ↔ x ∈ s.trace) := fun x hx => by
      rw [htr, List.mem_append]; exact or_iff_right fun hm => e (hx ▸ hev x hm)
    have := h.at k
    rw [hses k e]
    cases hk : s.ses k <;> simp only [hk, logged, mem (.est k) rfl, mem (.fin k) rfl, mem (.handler k) rfl] at this ⊢ <;>
      exact this

theorem cb_step (f : Bool) (s s' : St) (l : Lbl) (h : CbInv s) (hs : step f s l = some s') : CbInv s' := by
  -- a session that has left `none` was spawned
  have born : ∀ j, s.ses j ≠ .none → ∀ k, s.nses ≤ k → s.nses ≤ k ∧ k ≠ j :=
    fun j hj k hk => ⟨hk, fun e => hj (h.fresh j (e ▸ hk))⟩
  cases Step.of_step hs with
  | take =>
    exact h.frame s.nses (ev := []) (by simp) rfl (fun _ => upd_other) (fun k (hk : s.nses + 1 ≤ k) => by omega)
      h.paired (by have := h.at s.nses; rw [h.fresh _ (Nat.le_refl _)] at this; simpa [upd_same, logged] using this)
  | hsOk j hj =>
    have ⟨q1, q2, q3⟩ := h.quiet j (.inr (.inl hj))
    exact h.frame j (ev := [.est j]) (by simp [Ev.ses]) rfl (fun _ => upd_other) (born j (by simp [hj]))
      (by simp [pairedRev, h.paired, q1, q2, q3]) (by simp [upd_same, logged, q2])
  | hsFail j hj =>
    exact h.frame j (ev := []) (by simp) rfl (fun _ => upd_other) (born j (by simp [hj]))
      h.paired (by simpa [upd_same, logged] using h.quiet j (.inr (.inl hj)))
  | handle j hj =>
    have ⟨q1, q2⟩ := h.est j hj
    exact h.frame j (ev := [.handler j]) (by simp [Ev.ses]) rfl (fun _ _ => rfl) (born j (by simp [hj]))
      (by simp [pairedRev, h.paired, q1, q2]) (by simp [hj, logged, q1, q2])
  | finish j hj =>
    have ⟨q1, q2⟩ := h.est j hj
    exact h.frame j (ev := [.fin j]) (by simp [Ev.ses]) rfl (fun _ => upd_other) (born j (by simp [hj]))
      (by simp [pairedRev, h.paired, q1, q2]) (by simp [upd_same, logged, q1])
  -- the other labels write neither `ses` nor `nses` nor `trace`
  | _ => exact { h with }

theorem cb_run (f : Bool) (ls : List Lbl) (s s' : St) (h : CbInv s) (hr : runL f s ls = some s') : CbInv s' :=
  runL_preserves (cb_step f) ls s s' h hr

/-- **C18 (callbacks)**: under every schedule the callbacks are paired: `Established` at most once
per session and before any handler of that session, `Finished` at most once, after `Established`,
and nothing of the session after it; no callback for a session that did not establish. -/
theorem callbacks_paired (f : Bool) (n b : Nat) (ls : List Lbl) (s : St) (hr : runL f (init n b) ls = some s) :
    pairedRev s.trace = true ∧
    (∀ j, s.ses j ≠ .established → s.ses j ≠ .finished → Ev.est j ∉ s.trace ∧ Ev.fin j ∉ s.trace ∧ Ev.handler j ∉ s.trace) := by
  have hI := cb_run f ls _ _ (cb_init n b) hr
  refine ⟨hI.paired, fun j h1 h2 => ?_⟩
  have := hI.at j
  cases e : s.ses j <;> simp_all [logged]

/-- **C18 (every established session is finished)**: when no session is in its handshake or still
established, every `Established` callback has its `Finished` callback. -/
theorem all_finished_at_quiescence (f : Bool) (n b : Nat) (ls : List Lbl) (s : St)
    (hr : runL f (init n b) ls = some s) (hq : ∀ j, s.ses j ≠ .handshaking ∧ s.ses j ≠ .established) :
    allFinished s.trace = true := by
  have hI := cb_run f ls _ _ (cb_init n b) hr
  simp only [allFinished, List.all_eq_true]
  intro e he
  cases e with
  | est j =>
    have := hI.at j
    have := hq j
    cases e : s.ses j <;> simp_all [logged]
  | fin j => rfl
  | handler j => rfl

/-- an acceptor between two `Accept` calls when `Close` runs reports the closed listener's error
first: the unrepaired `ListenAndServe` returned it instead of the server-closed error -/
example : ((runL false (init 1 4) [.publish, .startListener, .spawnConsumer, .closeCancel, .closeLst, .accExitLst 0,
    .consumerExit, .ret]).map (·.returned)) = some (some .listenerErr) := by decide
example : ((runL true (init 1 4) [.publish, .startListener, .spawnConsumer, .closeCancel, .closeLst, .accExitLst 0,
    .consumerExit, .ret]).map (·.returned)) = some (some .serverClosed) := by decide

/-- a `Close` that overtakes the start-up: the listener started afterwards stayed open -/
example : ((runL false (init 1 4) [.publish, .closeCancel, .closeLst, .startListener, .spawnConsumer, .accExitCtx 0,
    .consumerExit, .ret]).map (fun s => (s.returned, s.lst 0))) = some (some .serverClosed, .listening) := by decide
example : ((runL true (init 1 4) [.publish, .closeCancel, .closeLst, .startListener, .spawnConsumer, .accExitCtx 0,
    .consumerExit, .ret]).map (fun s => (s.returned, s.lst 0))) = some (some .serverClosed, .closed) := by decide

/-- Non-vacuity of the callback theorems: two sessions, one refused. -/
example : ((runL true (init 1 4) [.publish, .startListener, .spawnConsumer, .connect 0, .push 0, .take, .connect 0, .push 0,
    .take, .hsOk 0, .hsFail 1, .handle 0, .closeCancel, .finish 0]).map (·.trace)) =
    some [.fin 0, .handler 0, .est 0] := by decide

end Props.C18
