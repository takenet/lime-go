import LimeModel.Lemmas.ServerHs
/-!
# `negotiate` and `confirm` from an arbitrary state

`negotiate` and `confirm` log only `quiet` events (no `Authenticate` call, no envelope of the
authentication): a property of traces that such events cannot break survives them, whatever the state
they start in (`confirm_quiet`, `negotiate_spec`). `Props.C09.confirm_post`, `negotiate_post` say so of the
checker `appliedRev`, `Props.C10.confirm_post`, `negotiate_post` of `encRev`.

These contracts stand by themselves. The theorems about whole runs (`C09.server_applies_before_auth`,
`C10.no_cleartext_auth`) do not go through them: they are read off the invariant of the handshake
(`Props.Hs.run_inv`), which follows the encryption through every function at once.
-/
namespace LimeModel.ServerHs
open LimeModel LimeModel.ServerSpec

def quiet : Ev → Bool
  | .authCall .. => false
  | .emit x _ => decide (x.state ≠ .authenticating ∧ x.state ≠ .established)
  | _ => true

section
variable {I : List Ev → Prop} (hI : ∀ e t, quiet e = true → I t → I (e :: t))
include hI

theorem sendSession_quiet (s : St) (e : Ses) (he : e.state ≠ .authenticating ∧ e.state ≠ .established)
    (h : I s.trace) : I (sendSession s e).2.trace := by
  rcases sendSession_cases s e with ⟨_, ht, _⟩ | ⟨_, ht⟩ <;> rw [ht]
  · exact hI _ _ (by simp [quiet, he]) h
  · exact h

theorem recvSession_quiet (c : Cfg) (s : St) (h : I s.trace) : I (recvSession c s).2.trace := by
  rcases recvSession_cases c s with ⟨x, _, ht⟩ | ⟨_, ht | ⟨r, _, ht⟩⟩ <;> rw [ht]
  · exact hI _ _ rfl h
  · exact h
  · exact hI _ _ rfl h

theorem failSession_quiet (c : Cfg) (s : St) (h : I s.trace) : I (failSession c s).2.trace := by
  fun_cases failSession c s
  · exact h
  · exact hI _ _ rfl (hI _ _ rfl (sendSession_quiet hI s _ (by simp) h))

theorem applyComp_quiet (s : St) (x : Opt) (h : I s.trace) : I (applyComp s x).2.trace := by
  rcases applyComp_cases s x with e | e <;> rw [e]
  · exact h
  · exact hI _ _ rfl h

theorem applyEnc_quiet (s : St) (x : Opt) (h : I s.trace) : I (applyEnc s x).2.trace := by
  rcases applyEnc_cases s x with ⟨e, _⟩ | e | e <;> rw [e]
  · exact h
  · exact hI _ _ rfl h
  · exact hI _ _ rfl h

theorem confirm_quiet (c : Cfg) (s : St) (a b : Opt) (h : I s.trace) : I (confirm c s a b).2.trace := by
  have h2 := sendSession_quiet hI s { id := c.sid, from_ := c.node, state := .negotiating, comp := a, enc := b } (by simp) h
  fun_cases confirm c s a b
  case case1 => exact h
  case case2 => exact h2
  case case3 => exact applyComp_quiet hI _ _ h2
  case case4 => exact applyEnc_quiet hI _ _ (applyComp_quiet hI _ _ h2)

/-- `negotiate` from an arbitrary state, in one walk: a trace predicate closed under quiet events survives it,
and a successful one has refused the selection with `failed`, or has confirmed an offered encryption and
put the transport on it -/
theorem negotiate_spec (c : Cfg) (s : St) (co eo : List Opt) (h : I s.trace) :
    I (negotiate c s co eo).2.trace ∧ ((negotiate c s co eo).1 = true →
      (negotiate c s co eo).2.state = .failed ∨
      ((negotiate c s co eo).2.state = .negotiating ∧ eo.contains (negotiate c s co eo).2.enc = true ∧
        confirmedEnc (negotiate c s co eo).2.trace = some (negotiate c s co eo).2.enc)) := by
  have h1 := sendSession_quiet hI (setState s .negotiating)
    { id := c.sid, from_ := c.node, state := .negotiating, compOpts := co, encOpts := eo } (by simp) (hI _ _ rfl h)
  fun_cases negotiate c s co eo
  case case1 | case2 => exact ⟨h, nofun⟩
  case case3 => exact ⟨h1, nofun⟩
  case case4 => exact ⟨recvSession_quiet hI c _ h1, nofun⟩
  case case5 x _ =>
    have h2 := recvSession_quiet hI c _ h1
    fun_cases onSelection c _ co eo x
    case case1 | case3 => exact ⟨failSession_quiet hI c _ h2, fun ok => .inl (failSession_state c _ ok)⟩
    case case2 hsel =>
      refine ⟨confirm_quiet hI c _ _ _ h2, fun ok => .inr ?_⟩
      have ⟨h3, h4, h5⟩ := confirm_success ok
      exact ⟨h3, by rw [h4]; exact hsel.2.2.2.2, by rw [h5 hsel.2.2.1, h4]⟩

end

end LimeModel.ServerHs

namespace Props.C09
open LimeModel LimeModel.ServerHs LimeModel.ServerSpec

/-- invariant of the authentication stage: checker fine, transport on the confirmed encryption -/
def A (s : St) : Prop := appliedRev s.trace = true ∧ ∀ b, confirmedEnc s.trace = some b → s.enc = b

/-- during negotiation nothing the checker looks at happens -/
def N (s : St) : Prop := appliedRev s.trace = true

theorem appliedRev_quiet (e : Ev) (t : List Ev) (hq : quiet e = true) (h : appliedRev t = true) :
    appliedRev (e :: t) = true := by
  cases e with
  | authCall => cases hq
  | emit x enc => simp only [appliedRev, if_neg (not_or.mpr (of_decide_eq_true hq)), h, Bool.and_self]
  | _ => exact h

/-- a successful confirmation leaves the transport on the confirmed encryption, and that
confirmation is the newest one in the trace -/
theorem confirm_post (c : Cfg) (s : St) (a b : Opt) (hb : b ≠ []) (h : N s) :
    N (confirm c s a b).2 ∧ ((confirm c s a b).1 = true → A (confirm c s a b).2) :=
  have hn := confirm_quiet appliedRev_quiet c s a b h
  ⟨hn, fun ok => ⟨hn, fun b' hb' => by
    have ⟨_, h2, h3⟩ := confirm_success ok
    rw [h2]; exact Option.some.inj ((h3 hb).symm.trans hb')⟩⟩

theorem negotiate_post (c : Cfg) (s : St) (co eo : List Opt) (h : N s) :
    N (negotiate c s co eo).2 ∧
    ((negotiate c s co eo).1 = true → (negotiate c s co eo).2.state = .failed ∨ A (negotiate c s co eo).2) :=
  have ⟨hn, hs⟩ := negotiate_spec appliedRev_quiet c s co eo h
  ⟨hn, fun ok => (hs ok).imp_right fun ⟨_, _, h3⟩ => ⟨hn, fun _ hb => Option.some.inj (h3.symm.trans hb)⟩⟩

end Props.C09

namespace Props.C10
open LimeModel LimeModel.ServerHs LimeModel.ServerSpec

abbrev Ok (c : Cfg) (s : St) : Prop := encRev c s.trace = true

theorem encRev_quiet (c : Cfg) (e : Ev) (t : List Ev) (hq : quiet e = true) (h : encRev c t = true) :
    encRev c (e :: t) = true := by
  cases e <;> simp_all [quiet, encRev]

/-- a successful confirmation leaves the transport on the confirmed encryption -/
theorem confirm_post (c : Cfg) (s : St) (a b : Opt) (h : Ok c s) :
    Ok c (confirm c s a b).2 ∧ ((confirm c s a b).1 = true → (confirm c s a b).2.enc = b) :=
  ⟨confirm_quiet (encRev_quiet c) c s a b h, fun ok => (confirm_success ok).2.1⟩

/-- what a successful negotiation guarantees: failed, or the transport runs an offered option -/
theorem negotiate_post (c : Cfg) (s : St) (co eo : List Opt) (h : Ok c s) :
    Ok c (negotiate c s co eo).2 ∧
    ((negotiate c s co eo).1 = true →
      (negotiate c s co eo).2.state = .failed ∨ eo.contains (negotiate c s co eo).2.enc = true) :=
  have ⟨hn, hs⟩ := negotiate_spec (encRev_quiet c) c s co eo h
  ⟨hn, fun ok => (hs ok).imp_right (·.2.1)⟩

end Props.C10
