import LimeModel.ClientSpec
import LimeModel.Lemmas.ClientHs
/-!
# C08 — the client handshake tolerates any server and reports establishment truthfully

For every server script of any length (any states in any order, regressions included, any ids,
options, confirmations, scheme lists, round-trip data, non-session envelopes, undecodable input,
disconnects), every selector and authenticator behaviour, every pattern of failing sends and every
`SetEncryption` outcome.
-/
namespace Props.C08
open LimeModel LimeModel.ClientHs LimeModel.ClientSpec
open LimeModel.ServerHs (SState Ses Recv Opt)

/-- **C08 (never panics)**: with selector and authenticator callbacks that return normally, client
establishment returns a session or an error on every server script. -/
theorem client_never_panics (c : Cfg) (recvs : List Recv) (auths : List Auth) (sendOk : List Bool)
    (setEncOk : Bool) (enc0 : Opt) : (run c recvs auths sendOk setEncOk enc0).res ≠ .panic :=
  -- `establish_post` rules a panic out whatever is kept: keep nothing
  have k : Keeps c (fun _ _ => True) (fun _ => True) := by constructor <;> intros <;> simp
  -- at `.panic` the post-condition `EPost` computes to `False`
  fun hp => (hp ▸ run_post k recvs auths sendOk setEncOk enc0 trivial : EPost _ _ (.panic, _))

@[simp] theorem log_trace (s : St) (e : Ev) : (s.log e).trace = e :: s.trace := rfl
@[simp] theorem log_sid (s : St) (e : Ev) : (s.log e).sid = s.sid := rfl
@[simp] theorem log_state (s : St) (e : Ev) : (s.log e).state = s.state := rfl
@[simp] theorem log_connected (s : St) (e : Ev) : (s.log e).connected = s.connected := rfl
@[simp] theorem log_local (s : St) (e : Ev) : (s.log e).localNode = s.localNode := rfl
@[simp] theorem log_remote (s : St) (e : Ev) : (s.log e).remoteNode = s.remoteNode := rfl

theorem markEof_sid (c : Cfg) (s : St) : (markEof c s).sid = s.sid := by unfold markEof; split <;> rfl
theorem adopt_connected (s : St) (ses : Ses) : (adopt s ses).connected = s.connected := by
  unfold adopt; split <;> rfl

/-- the client's view after it accepted the server envelope `ses` -/
structure Post (s : St) (ses : Ses) : Prop where
  tr : cliRev s.trace = true
  latest : latestSes s.trace = some ses
  sid : s.sid = ses.id
  st : s.state = ses.state
  est : ses.state = .established → s.localNode = ses.to ∧ s.remoteNode = ses.from_
  closed : (ses.state = .finished ∨ ses.state = .failed) → s.connected = false

theorem cliRev_nonemit (e : Ev) (t : List Ev) (he : ∀ s x, e ≠ .emit s x) : cliRev (e :: t) = cliRev t := by
  cases e <;> first | rfl | exact absurd rfl (he _ _)

theorem latest_nonses (e : Ev) (t : List Ev) (he : ∀ x, e ≠ .recv (.ses x)) : latestSes (e :: t) = latestSes t := by
  cases e with
  | recv r => cases r <;> first | rfl | exact absurd rfl (he _)
  | _ => rfl

def Echo (o : Option Ses) (s : St) : Prop := cliRev s.trace = true ∧ latestSes s.trace = o

theorem Echo.log {o : Option Ses} {s : St} (e : Ev) (he : ∀ s x, e ≠ .emit s x) (hr : ∀ x, e ≠ .recv (.ses x))
    (h : Echo o s) : Echo o (s.log e) :=
  ⟨(cliRev_nonemit e _ he).trans h.1, (latest_nonses e _ hr).trans h.2⟩

theorem Echo.emit {c : Cfg} {o : Option Ses} {s : St} {e : Ses} (he : Sendable c o e) (h : Echo o s) :
    Echo o (s.log (.emit e s.enc)) := by
  refine ⟨?_, (latest_nonses _ _ (by rintro _ ⟨⟩)).trans h.2⟩
  simp only [St.log, cliRev, h.1, h.2, Bool.and_true]
  cases he with
  | new => rfl  -- nothing received yet: a `new` envelope without id or credentials
  | selection x => simp  -- the id of the envelope last received, no credentials
  | credentials x a hx => simp [hx]  -- its id again, and it asked for authentication

theorem echo_keeps (c : Cfg) : Keeps c Echo (fun s => cliRev s.trace = true) where
  weak h := h.1
  frame h hs := by unfold Echo; rw [hs.trace]; exact h
  wframe h hs := by rw [hs.trace]; exact h
  quiet e he := Echo.log e (by rintro _ _ rfl; cases he) (by rintro _ rfl; cases he)
  emit := Echo.emit
  recvSes _ h := ⟨(cliRev_nonemit _ _ (by rintro _ _ ⟨⟩)).trans h.1, rfl⟩
  recvEst _ hr _ := Echo.log _ (by rintro _ _ ⟨⟩) fun x e => hr x (Ev.recv.inj e)
  recvBad _ _ h := (cliRev_nonemit _ _ (by rintro _ _ ⟨⟩)).trans h.1
  setState := fun {_ s} x _ h =>
    Echo.log (s := { s with state := x }) (.setState x) (by rintro _ _ ⟨⟩) (by rintro _ ⟨⟩) h
  confirmed x h :=
    have := confirmed_of_silent (I := Echo _)
      (fun e he => Echo.log e (by rintro _ _ rfl; cases he) (by rintro _ rfl; cases he)) (fun _ h => h) x h
    ⟨this.1, fun _ => this⟩

/-- **C08 (what the client sends)**: in every run the first client envelope is a bare `new` session,
every later envelope echoes the id of the server's latest session envelope, and credentials are
sent only in answer to an authentication request. -/
theorem echoes_latest_id (c : Cfg) (recvs : List Recv) (auths : List Auth) (sendOk : List Bool)
    (setEncOk : Bool) (enc0 : Opt) :
    cliRev (run c recvs auths sendOk setEncOk enc0).trace.reverse = true := by
  rw [run_trace]
  exact (run_post (echo_keeps c) recvs auths sendOk setEncOk enc0 ⟨rfl, rfl⟩).weaken fun _ _ h => h.1.1

/-- **C08 (what the client reports)**: a session returned by `EstablishSession` is the server's
last session envelope; when it is `established` the channel's state is `established`, with exactly that
envelope's id, `to` as local node and `from` as remote node; when it is `finished` or `failed` the
client has closed its connection. -/
theorem established_truthful (c : Cfg) (recvs : List Recv) (auths : List Auth) (sendOk : List Bool)
    (setEncOk : Bool) (enc0 : Opt) :
    let r := run c recvs auths sendOk setEncOk enc0
    truthful r.res r.final r.trace.reverse = true := by
  have hg := run_post (echo_keeps c) recvs auths sendOk setEncOk enc0 ⟨rfl, rfl⟩
  simp only [run_trace]
  generalize run c recvs auths sendOk setEncOk enc0 = r at hg ⊢
  obtain ⟨_, res, fin⟩ := r
  cases res with
  | err => rfl
  | panic => rfl
  | ok ses =>
    have hp : Post fin ses := ⟨hg.1.1, hg.1.2, hg.2.sid, hg.2.state, hg.2.nodes, hg.2.closed⟩
    simp only [truthful, hp.latest, decide_true, Bool.true_and, Bool.and_eq_true]
    refine ⟨?_, ?_⟩
    · split
      · rename_i he
        simp only [hp.st, he, hp.sid, (hp.est he).1, (hp.est he).2, decide_true, Bool.and_self]
      · rfl
    · split
      · rename_i ht
        simp [hp.closed ht]
      · rfl

/-- Non-vacuity: a cooperative server script ends with an established session that the client
reports with the server's id and nodes. -/
def demoCfg : Cfg := { identity := ⟨cs!"alice", cs!"d"⟩, inst := cs!"home", compSel := fun _ => cs!"none", encSel := fun _ => cs!"none" }

def demoRun : Result :=
  run demoCfg [.ses { id := cs!"S", from_ := ⟨cs!"srv", cs!"d", cs!"1"⟩, state := .authenticating, schemeOpts := [cs!"guest"] }, .ses { id := cs!"S", from_ := ⟨cs!"srv", cs!"d", cs!"1"⟩, to := ⟨cs!"alice", cs!"d", cs!"x"⟩, state := .established }] [.guest] [] true

example : demoRun.final.state = .established ∧ demoRun.final.sid = cs!"S" ∧
    demoRun.final.localNode = ⟨cs!"alice", cs!"d", cs!"x"⟩ := by decide

end Props.C08
