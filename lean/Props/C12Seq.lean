import Props.C12
/-!
# C12 over a whole sending session, failed sends included

`write_loop_exact` is about one `Send`, `stream_reassembly` about the receiving side of a stream of
frames. Here they are put together for a sender that goes on using the transport after a `Send`
reported an error: "the receiving end yields exactly the sequence of envelopes the sending end
reported as sent".
-/
namespace Props.C12
open LimeModel.Stream

/-- a session of sends on one transport: every `Send` has its envelope's bytes and its own write
script; the result is what reached the connection and what each `Send` reported -/
def sendAll : List (Bytes × List WriteEv) → Bytes × List Bool
  | [] => ([], [])
  | (b, plan) :: rest =>
    ((writeLoop b plan 0).wire ++ (sendAll rest).1, (writeLoop b plan 0).ok :: (sendAll rest).2)

/-- the envelopes whose `Send` reported success, in order -/
def reportedSent : List (Bytes × List WriteEv) → List Bytes
  | [] => []
  | (b, plan) :: rest => if (writeLoop b plan 0).ok then b :: reportedSent rest else reportedSent rest

/-- a failed `Send` left nothing on the connection (its context was over before the first write, or
the first write was refused whole) -/
def CleanFailures (sends : List (Bytes × List WriteEv)) : Prop :=
  ∀ s ∈ sends, (writeLoop s.1 s.2 0).ok = false → (writeLoop s.1 s.2 0).wire = []

theorem sendAll_wire (sends : List (Bytes × List WriteEv)) (hc : CleanFailures sends) :
    (sendAll sends).1 = (reportedSent sends).flatten := by
  induction sends with
  | nil => rfl
  | cons s rest ih =>
    have hrest : CleanFailures rest := fun x hx => hc x (List.mem_cons_of_mem _ hx)
    simp only [sendAll, reportedSent, ih hrest]
    cases hok : (writeLoop s.1 s.2 0).ok with
    | true => simp [(write_loop_exact s.1 s.2 0).2.1 hok]
    | false => simp [hc s (List.mem_cons_self ..) hok]

theorem reportedSent_sublist (sends : List (Bytes × List WriteEv)) :
    (reportedSent sends).Sublist (sends.map (·.1)) := by
  induction sends with
  | nil => exact .slnil
  | cons s rest ih =>
    simp only [reportedSent, List.map_cons]
    split
    · exact ih.cons_cons _
    · exact ih.cons _

/-- **C12 (whole session)**: a sender makes any number of `Send`s, each under any write script (short
writes, transient timeouts, hard errors, an expired context), and goes on after failures that left
nothing on the connection. Whatever the fragmentation on the receiving side, the receiver is handed
exactly the envelopes whose `Send` reported success, in order — never one that was reported as not
sent. -/
theorem session_delivers_reported (F : Framing) (sends : List (Bytes × List WriteEv))
    (hfs : ∀ s ∈ sends, F.isFrame s.1) (hc : CleanFailures sends) (plan : List Nat) :
    recvFrames F.complete (reportedSent sends).length [] (sendAll sends).1 plan =
      (reportedSent sends).map RecvOut.frame := by
  have hfr : ∀ f ∈ reportedSent sends, F.isFrame f := by
    intro f hf
    obtain ⟨s, hs, rfl⟩ := List.mem_map.1 ((reportedSent_sublist sends).subset hf)
    exact hfs s hs
  exact stream_reassembly F (reportedSent sends) hfr [] (sendAll sends).1 plan (by simp [sendAll_wire sends hc])

/-- Non-vacuity: three sends, the middle one with a context that is already over; its bytes are not on
the wire and it is not among the reported ones. -/
example : sendAll [([1, 10], []), ([2, 10], [.ctxDone]), ([3, 10], [.timeoutAfter 1])] = ([1, 10, 3, 10], [true, false, true]) ∧
    reportedSent [([1, 10], []), ([2, 10], [.ctxDone]), ([3, 10], [.timeoutAfter 1])] = [[1, 10], [3, 10]] := by
  decide

/-- and the hypothesis is needed: a send that failed after a partial write leaves a proper prefix on
the wire, and what follows is not a sequence of frames any more -/
example : (sendAll [([1, 2, 10], [.failAfter 1]), ([3, 10], [])]).1 = [1, 3, 10] := by decide

end Props.C12
