import LimeModel.Lemmas.ServerHs
/-!
# The invariant of the server handshake

Every specification of the server handshake (`ServerSpec`) is a check, event by event, of the trace
against what the state was when the event was logged. `Inv` says, for a point of the handshake, in
which phase of the protocol automaton the observable trace is, and that each checker accepts the
trace; where a checker compares an event with the state (`monoRev` with `state`, `appliedRev` and
`encRev` with `enc`) it also says how the state stands to the trace. One walk through the model
(`establish_inv`; each function by the rules `Holds.guard`, `After.bind`, `Holds.await`, in the order of its
definition) proves it for every run (`run_inv`).
-/
namespace Props.Hs
open LimeModel LimeModel.ServerHs LimeModel.ServerSpec

/-- the phases between the authentication request and the `established` envelope: here the
encryption is settled -/
def authStage : Phase → Bool
  | .awaitAuth | .gotAuth _ | .authed _ _ | .registered _ => true
  | _ => false

/-- the encryption in force is the confirmed one, if one was confirmed, and a configured one, if
the connection supports any -/
def Settled (c : Cfg) (enc : Opt) (tr : List Ev) : Prop :=
  (∀ b, confirmedEnc tr = some b → enc = b) ∧ (inter c.encOpts c.supEnc ≠ [] → c.encOpts.contains enc = true)

structure Inv (c : Cfg) (st : SState) (enc : Opt) (tr : List Ev) (p : Phase) : Prop where
  phase : phaseOf c (obs tr) = some p
  /-- the trace is monotone and no state logged in it is above `st`, as one run of the checker:
  it evaluates to the same on `e :: tr` for `e` not a `setState`, so only `Holds.setState` has to prove it -/
  mono : monoRev (.setState st :: tr) = true
  applied : appliedRev tr = true
  encs : inter c.encOpts c.supEnc ≠ [] → encRev c tr = true
  settled : authStage p = true → Settled c enc tr

abbrev Holds (c : Cfg) (s : St) (p : Phase) : Prop := Inv c s.state s.enc s.trace p

variable {c : Cfg} {st : SState} {enc : Opt} {tr : List Ev} {p p' : Phase} {s : St}

theorem Inv.silent (h : Inv c st enc tr p) (e : Ev) (ho : Ev.observable e = false) (hs : ∀ x, e ≠ .setState x) :
    Inv c st enc (e :: tr) p := by
  cases e
  case setState => exact absurd rfl (hs _)
  case setEnc | setComp | close => exact { h with }  -- every checker evaluates to the same on the longer trace
  all_goals cases ho

theorem Inv.recv (h : Inv c st enc tr p) (r : Recv) (hs : stepPhase c p (.recv r) = some p')
    (hp : authStage p' = true → authStage p = true) : Inv c st enc (.recv r :: tr) p' :=
  { h with
    phase := by rw [obs_recv, phaseOf_cons h.phase, hs]
    settled := fun h' => h.settled (hp h') }

theorem Inv.emitQuiet (h : Inv c st enc tr p) (e : Ses) (x : Opt)
    (he : e.state ≠ .authenticating ∧ e.state ≠ .established)
    (hs : stepPhase c p (.emit e x) = some p') (hp : authStage p' = false) : Inv c st enc (.emit e x :: tr) p' :=
  { h with
    phase := by rw [obs_emit, phaseOf_cons h.phase, hs]
    applied := by simp [appliedRev, he, h.applied]
    encs := fun hne => by simp [encRev, he, h.encs hne]
    settled := by simp [hp] }

theorem Inv.emitAuth (h : Inv c st enc tr p) (e : Ses) (he : e.state = .authenticating ∨ e.state = .established)
    (hs : stepPhase c p (.emit e enc) = some p') (hK : Settled c enc tr) : Inv c st enc (.emit e enc :: tr) p' :=
  { h with
    phase := by rw [obs_emit, phaseOf_cons h.phase, hs]
    applied := by
      simp only [appliedRev, he, ↓reduceIte, h.applied, Bool.and_true]
      cases hc : confirmedEnc tr with
      | none => rfl
      | some b => simp [hK.1 b hc]
    encs := fun hne => by simpa [encRev, he, h.encs hne] using hK.2 hne
    settled := fun _ => ⟨fun b hb => hK.1 b (by
      have : e.state ≠ .negotiating := by rcases he with he | he <;> simp [he]
      simpa [confirmedEnc, this] using hb), hK.2⟩ }

theorem Holds.setState (h : Holds c s p) (x : SState) (hx : s.state.step ≤ x.step) :
    Holds c (ServerHs.setState s x) p :=
  have ⟨h1, h2⟩ := Bool.and_eq_true_iff.mp h.mono
  -- the states logged so far, all at most `s.state`, are at most `x` as well
  have hx' : monoRev (.setState x :: s.trace) = true :=
    Bool.and_eq_true_iff.mpr ⟨List.all_eq_true.mpr fun e he => by
      have := List.all_eq_true.mp h1 e he
      cases e with
      | setState y => exact decide_eq_true (Nat.le_trans (of_decide_eq_true this) hx)
      | _ => rfl, h2⟩
  { h with
    mono := Bool.and_eq_true_iff.mpr
      ⟨Bool.and_eq_true_iff.mpr ⟨decide_eq_true (Nat.le_refl _), (Bool.and_eq_true_iff.mp hx').1⟩, hx'⟩ }

/-- a state that the guard of `authenticate`, or that of `sendEstablished`, lets through is below the one then set -/
theorem step_le_of_guard {x : SState} :
    (¬(x ≠ .new ∧ x ≠ .negotiating) → x.step ≤ SState.authenticating.step) ∧
    (¬(x ≠ .new ∧ x ≠ .negotiating ∧ x ≠ .authenticating) → x.step ≤ SState.established.step) := by
  cases x <;> decide

theorem Holds.close (h : Holds c s p) : Holds c (closeT s) p := Inv.silent h .close rfl (by simp)

theorem Holds.callAuth {x : Ses} (h : Holds c s (.gotAuth x)) (out : AuthOut) :
    Holds c (callAuth s x out) (.authed x out) :=
  { h with
    phase := by rw [callAuth_trace, obs_auth, phaseOf_cons h.phase]; exact if_pos ⟨rfl, rfl, rfl⟩
    applied := by
      simp only [callAuth_trace, appliedRev, h.applied, Bool.and_true]
      cases hc : confirmedEnc s.trace with
      | none => rfl
      | some b => simp [(h.settled rfl).1 b hc]
    encs := fun hne => by simpa [encRev, h.encs hne] using (h.settled rfl).2 hne
    settled := fun _ => h.settled rfl }

theorem Holds.callReg {x : Ses} (h : Holds c s (.authed x .role)) (res : Option Node) :
    Holds c (callReg s x res) (match res with | some n => .registered n | none => .ended) :=
  { h with
    phase := by rw [callReg_trace, obs_reg, phaseOf_cons h.phase]; exact (if_pos rfl).trans (by cases res <;> rfl)
    settled := fun _ => h.settled rfl }

/-- the invariant holds, in whatever phase: all that is left to say once the handshake has given up -/
def Sound (c : Cfg) (s : St) : Prop := ∃ p, Holds c s p

/-- what a part of the handshake leaves behind: the invariant, and `Q` if it reports success -/
def After (c : Cfg) (r : Bool × St) (Q : St → Prop) : Prop := (r.1 = true → Q r.2) ∧ Sound c r.2

variable {P Q : St → Prop} {r e : Bool × St}

theorem After.dead (h : Sound c s) : After c (false, s) Q := ⟨nofun, h⟩

theorem After.mono (h : After c r P) (hq : P r.2 → Q r.2) : After c r Q := ⟨fun ok => hq (h.1 ok), h.2⟩

/-! The model's functions are chains of a few shapes of step — a guard, a step whose failure ends the
function (`if !r.1 …`, `if r.1 …`), the wait for an envelope (`Holds.await`, further down) — with a rule
for each, so that a proof about a function follows its definition and names only the steps that do
something. In the first four rules the rest of the function is the term `e`, not a function of the
state: Lean finds it by first-order unification. -/

theorem After.ite {g : Prop} [Decidable g] {a : Bool × St} (ha : g → After c a Q) (he : ¬g → After c e Q) :
    After c (if g then a else e) Q := by
  split
  · exact ha ‹_›
  · exact he ‹_›

/-- a guard that gives up where the handshake stands -/
theorem Holds.guard {g : Prop} [Decidable g] (h : Holds c s p) (he : ¬g → After c e Q) :
    After c (if g then (false, s) else e) Q :=
  .ite (fun _ => .dead ⟨_, h⟩) he

/-- `let r := …; if !r.1 then (false, r.2) else e` -/
theorem After.bind (h : After c r P) (he : P r.2 → After c e Q) : After c (if !r.1 then (false, r.2) else e) Q :=
  .ite (fun _ => .dead h.2) fun ok => he (h.1 (by simpa using ok))

/-- `let r := …; if r.1 then e else (false, r.2)` -/
theorem After.bind' (h : After c r P) (he : P r.2 → After c e Q) : After c (if r.1 then e else (false, r.2)) Q :=
  .ite (fun ok => he (h.1 ok)) fun _ => .dead h.2

def Failed (c : Cfg) (s : St) : Prop := s.state = .failed ∧ Holds c s .term

/-- the handshake is over, one way or the other: what the authentication loop leaves behind on success -/
def Ended (c : Cfg) (s : St) : Prop := (s.state = .established ∧ Holds c s .established) ∨ Failed c s

theorem Ended.sound (h : Ended c s) : Sound c s := by
  rcases h with ⟨_, h⟩ | ⟨_, h⟩ <;> exact ⟨_, h⟩

theorem Holds.sent (h : Holds c s p) (e : Ses) (hs : Inv c s.state s.enc (.emit e s.enc :: s.trace) p') :
    After c (sendSession s e) (fun s' => Holds c s' p') := by
  rcases sendSession_cases s e with ⟨_, ht, _⟩ | ⟨h1, ht⟩
  · have : Holds c (sendSession s e).2 p' := by simpa only [Holds, sendSession_state, sendSession_enc, ht] using hs
    exact ⟨fun _ => this, _, this⟩
  · exact ⟨by simp [h1], p, by simpa only [Holds, sendSession_state, sendSession_enc, ht] using h⟩

/-- where the server waits for an envelope, and the phase to which a session envelope `x` takes the automaton -/
inductive Awaits (c : Cfg) : Phase → (Ses → Phase) → Prop
  | start : Awaits c .start fun x => if x.state = .new ∧ x.id = [] then .gotNew else .mustFail
  | sel (co eo : List Opt) :
    Awaits c (.awaitSel co eo) fun x => if validSelection c co eo x = true then .gotSel x.comp x.enc else .mustFail
  | auth : Awaits c .awaitAuth fun x => if validAuth c x = true then .gotAuth x else .mustFail

variable {f : Ses → Phase}

theorem Awaits.ses (hp : Awaits c p f) (x : Ses) : stepPhase c p (.recv (.ses x)) = some (f x) := by
  cases hp <;> exact (apply_ite some ..).symm

theorem Awaits.gone (hp : Awaits c p f) {r : Recv} (hr : ∀ x, r ≠ .ses x) : stepPhase c p (.recv r) = some .ended := by
  cases hp <;> cases r <;> first | rfl | exact absurd rfl (hr _)

/-- an envelope leads into the authentication stage only from within it -/
theorem Awaits.stage (hp : Awaits c p f) (x : Ses) (h : authStage (f x) = true) : authStage p = true := by
  cases hp <;> first | rfl | (dsimp only at h; split at h <;> cases h)

/-- `let q := recvSession c s; match q.1 with | none => (false, q.2) | some x => k x` -/
theorem Holds.await {k : Ses → Bool × St} (h : Holds c s p) (hp : Awaits c p f)
    (hk : ∀ x, (recvSession c s).1 = some x → Holds c (recvSession c s).2 (f x) → After c (k x) Q) :
    After c (match (recvSession c s).1 with | none => (false, (recvSession c s).2) | some x => k x) Q := by
  have keep {r p'} (ht : (recvSession c s).2.trace = .recv r :: s.trace) (hs : stepPhase c p (.recv r) = some p')
      (ha : authStage p' = true → authStage p = true) : Holds c (recvSession c s).2 p' := by
    simpa only [Holds, recvSession_state, recvSession_enc, ht] using Inv.recv h r hs ha
  rcases recvSession_cases c s with ⟨x, hx, ht⟩ | ⟨hn, ht | ⟨r, hr, ht⟩⟩
  · rw [hx]; exact hk x hx (keep ht (hp.ses x) (hp.stage x))
  · rw [hn]; exact .dead ⟨p, by simpa only [Holds, recvSession_state, recvSession_enc, ht] using h⟩
  · rw [hn]; exact .dead ⟨_, keep ht (hp.gone hr) nofun⟩

theorem Holds.applyComp (h : Holds c s p) (x : Opt) : After c (applyComp s x) (fun s' => Holds c s' p) := by
  rcases applyComp_cases s x with e | e <;> rw [e]
  · exact ⟨fun _ => h, _, h⟩
  · exact .dead ⟨_, Inv.silent h _ rfl (by simp)⟩

/-- before the authentication stage nothing is said of the encryption in force -/
theorem Holds.applyEnc (h : Holds c s p) (hp : authStage p = false) (e : Opt) :
    After c (applyEnc s e) (fun s' => Holds c s' p) := by
  rcases applyEnc_cases s e with ⟨e', _⟩ | e' | e' <;> rw [e']
  · exact ⟨fun _ => h, _, h⟩
  · have h' : Inv c s.state e (.setEnc e true :: s.trace) p := { Inv.silent h (.setEnc e true) rfl (by simp) with settled := by simp [hp] }
    exact ⟨fun _ => h', _, h'⟩
  · exact .dead ⟨_, Inv.silent h (.setEnc e false) rfl (by simp)⟩

theorem Holds.failed (h : Holds c s p) (hp : p = .mustFail ∨ ∃ x, p = .authed x .unknown) :
    After c (failSession c s) (Failed c) := by
  unfold failSession
  refine h.guard fun _ => ?_
  have after {s' q} (hq : Holds c s' q) : Holds c (closeT (ServerHs.setState s' .failed)) q :=
    (hq.setState .failed (by cases s'.state <;> decide)).close
  obtain ⟨h1, q, h2⟩ := h.sent { id := c.sid, from_ := c.node, to := s.remote, state := .failed, hasReason := true }
    (p' := .term) (Inv.emitQuiet h _ _ (by simp)
      (by rcases hp with rfl | ⟨x, rfl⟩ <;> exact if_pos (by simp [isFailed, stamped])) rfl)
  exact ⟨fun ok => ⟨rfl, after (h1 ok)⟩, q, after h2⟩

theorem Holds.established {n : Node} (h : Holds c s (.registered n)) :
    After c (sendEstablished c s n) (Ended c) := by
  unfold sendEstablished
  refine h.guard fun _ => h.guard fun hg => ?_
  have h1 : Holds c (setRemote (ServerHs.setState s .established) n) (.registered n) :=
    h.setState _ (step_le_of_guard.2 hg)
  exact (h1.sent _ (Inv.emitAuth h1 _ (.inr rfl) (if_pos (by simp [isEstablished, stamped])) (h1.settled rfl))).mono
    fun h2 => .inl ⟨sendSession_state .., h2⟩

theorem Holds.confirmed {a b : Opt} (h : Holds c s (.gotSel a b)) :
    After c (confirm c s a b) (fun s' => Holds c s' .confirmed) := by
  unfold confirm
  exact h.guard fun _ =>
    (h.sent _ (p' := .confirmed) (Inv.emitQuiet h _ _ (by simp) (if_pos (by simp [isNegConf, stamped])) rfl)).bind fun h2 =>
    (h2.applyComp a).bind fun h3 => h3.applyEnc rfl b

/-- `validAuth` in the words of the three guards of `authLoop` -/
theorem validAuth_iff {x : Ses} : validAuth c x = true ↔
    ¬x.state ≠ .authenticating ∧ ¬x.id ≠ c.sid ∧ ¬(!c.schemeOpts.contains x.scheme) = true := by
  simp only [validAuth, Bool.and_eq_true, decide_eq_true_eq, and_assoc, Decidable.not_not, Bool.not_eq_true', Bool.not_eq_false]

/-- re-entered after `established` or `failed` was sent, the loop leaves at once -/
theorem authLoop_ended (h : Ended c s) (ses : Ses) (fuel : Nat) : After c (authLoop c s ses fuel) (Ended c) := by
  cases fuel with
  | zero => exact .dead h.sound
  | succ fuel =>
    have hleft : s.state ≠ .authenticating := by rcases h with ⟨h, _⟩ | ⟨h, _⟩ <;> rw [h] <;> nofun
    rw [authLoop, if_pos hleft]
    exact ⟨fun _ => h, h.sound⟩

/-- on entry to the loop the newest input is the envelope `ses`, still to be judged -/
theorem authLoop_inv (c : Cfg) (s : St) (ses : Ses) (fuel : Nat) (hst : s.state = .authenticating)
    (h : Holds c s (if validAuth c ses = true then .gotAuth ses else .mustFail)) :
    After c (authLoop c s ses fuel) (Ended c) := by
  induction fuel generalizing s ses with
  | zero => exact .dead ⟨_, h⟩
  | succ fuel ih =>
  rw [authLoop]
  have invalid (hv : ¬validAuth c ses = true) : After c (failSession c s) (Ended c) :=
    (Holds.failed (p := .mustFail) (by rwa [if_neg hv] at h) (.inl rfl)).mono .inr
  -- the envelope's state, id, scheme
  refine .ite (absurd hst) fun _ => .ite (fun h1 => invalid fun hv => (validAuth_iff.mp hv).1 h1) fun h1 =>
    .ite (fun h2 => invalid fun hv => (validAuth_iff.mp hv).2.1 h2) fun h2 =>
    .ite (fun h3 => invalid fun hv => (validAuth_iff.mp hv).2.2 h3) fun h3 => ?_
  have hgot : Holds c s (.gotAuth ses) := by rwa [if_pos (validAuth_iff.mpr ⟨h1, h2, h3⟩)] at h
  cases hout : s.auths.head? with
  | none => exact .dead ⟨_, hgot⟩
  | some out =>
  have hauth := hgot.callAuth out
  cases out with
  | error => exact .dead ⟨_, hauth⟩
  | role =>
    dsimp only
    cases hreg : (callAuth s ses .role).regs.head? with
    | none => exact .dead ⟨_, hauth.callReg none⟩
    | some res =>
    cases res with
    | none => exact .dead ⟨_, hauth.callReg none⟩
    | some n => exact (hauth.callReg (some n)).established.bind' fun h => authLoop_ended h ..
  | roundTrip d =>
    -- `sendAuthenticatingRoundTripSession`, then the client's next envelope, then the loop again
    refine hauth.guard fun _ => After.bind (hauth.sent _ ?_) fun h2 => h2.await .auth fun ses' _ h3 => ?_
    · exact Inv.emitAuth hauth _ (.inl rfl) (if_pos (by simp [isRoundTrip, stamped])) (hauth.settled rfl)
    · exact ih _ ses' ((recvSession_sendSession_state ..).trans hst) h3
  | unknown => exact (hauth.failed (.inr ⟨_, rfl⟩)).bind' fun h => authLoop_ended (.inr h) ..

/-- ready to authenticate: negotiation was not needed or went through, and the encryption is settled
(`state ≠ failed` is the test by which `newBlock` tells this from a selection refused with `failed`) -/
def Ready (c : Cfg) (s : St) : Prop :=
  s.state ≠ .failed ∧ ∃ p, (p = .gotNew ∨ p = .confirmed) ∧ Holds c s p ∧ Settled c s.enc s.trace

theorem authenticate_inv (hr : Ready c s) : After c (authenticate c s) (Ended c) := by
  obtain ⟨_, p, hp, h, hK⟩ := hr
  unfold authenticate
  refine h.guard fun _ => h.guard fun _ => h.guard fun hg => ?_
  have h1 := h.setState .authenticating (step_le_of_guard.1 hg)
  have ha : isAuthOpts c { id := c.sid, from_ := c.node, state := .authenticating, schemeOpts := c.schemeOpts } = true := by
    simp [isAuthOpts, stamped]
  exact (h1.sent _ (Inv.emitAuth h1 _ (.inl rfl)
      (by rcases hp with rfl | rfl; exact (if_neg (by simp [isNegOpts])).trans (if_pos ha); exact if_pos ha) hK)).bind
    fun h2 => h2.await .auth fun ses _ => authLoop_inv c _ ses _ (recvSession_sendSession_state ..)

theorem validSelection_iff {co eo : List Opt} {x : Ses} : validSelection c co eo x = true ↔
    x.id = c.sid ∧ x.state = .negotiating ∧ x.comp ≠ [] ∧ x.enc ≠ [] ∧ co.contains x.comp = true ∧ eo.contains x.enc = true := by
  simp only [validSelection, Bool.and_eq_true, decide_eq_true_eq, and_assoc]

theorem inter_sub {a b : List Opt} {x : Opt} (h : (inter a b).contains x = true) : a.contains x = true := by
  simp [inter] at h ⊢; exact h.1

/-- what `negotiate` leaves behind on success: the selection was refused with `failed`, or confirmed and applied -/
def Negotiated (c : Cfg) (s : St) : Prop := Failed c s ∨ Ready c s

theorem onSelection_inv {co eo : List Opt} {x : Ses} (heo : ∀ e, eo.contains e = true → c.encOpts.contains e = true)
    (h : Holds c s (if validSelection c co eo x = true then .gotSel x.comp x.enc else .mustFail)) :
    After c (onSelection c s co eo x) (Negotiated c) := by
  have refuse : ¬validSelection c co eo x = true → After c (failSession c s) (Negotiated c) := fun hv =>
    (Holds.failed (p := .mustFail) (by rwa [if_neg hv] at h) (.inl rfl)).mono .inl
  unfold onSelection
  refine .ite (fun hid => refuse fun hv => hid (validSelection_iff.mp hv).1) fun hid =>
    .ite (fun hsel => ?_) fun hsel => refuse fun hv => hsel (validSelection_iff.mp hv).2
  have hc : Holds c s (.gotSel x.comp x.enc) := by
    rwa [if_pos (validSelection_iff.mpr ⟨Decidable.not_not.mp hid, hsel⟩)] at h
  refine ⟨fun ok => .inr ?_, hc.confirmed.2⟩
  -- the transport is on the encryption just confirmed, which was among those offered
  have ⟨hst, henc, hconf⟩ := confirm_success ok
  exact ⟨by simp [hst], _, .inr rfl, hc.confirmed.1 ok,
    fun b hb => henc.trans (Option.some.inj ((hconf hsel.2.2.1).symm.trans hb)), fun _ => by rw [henc]; exact heo _ hsel.2.2.2.2⟩

theorem negotiate_inv (h : Holds c s .gotNew) :
    After c (negotiate c s (inter c.compOpts c.supComp) (inter c.encOpts c.supEnc)) (Negotiated c) := by
  unfold negotiate
  refine h.guard fun hne => h.guard fun hg => ?_
  have h1 := h.setState .negotiating (by rw [Decidable.not_not.mp (not_or.mp hg).2]; decide)
  exact (h1.sent _ (Inv.emitQuiet h1 _ _ (by simp) (if_pos (by simpa [isNegOpts, stamped] using hne)) rfl)).bind
    fun h2 => h2.await (.sel ..) fun _ _ => onSelection_inv fun _ => inter_sub

/-- no negotiation when there is something to agree on: the one acceptable option is in force -/
theorem enc_of_not_needNegotiation {co eo : List Opt} (h : needNegotiation s co eo = false) (hne : eo ≠ []) :
    eo.contains s.enc = true := by
  simp only [needNegotiation, Bool.or_eq_false_iff, Bool.and_eq_false_iff, decide_eq_false_iff_not,
    Bool.not_eq_false'] at h
  -- of the four clauses of `needNegotiation`, the two about `eo`
  obtain ⟨⟨⟨-, (hlen : ¬eo.length > 1)⟩, -⟩, (hone : ¬eo.length = 1 ∨ eo.contains s.enc = true)⟩ := h
  match eo, hne with
  | [_], _ => exact hone.resolve_left (by simp)
  | _ :: _ :: _, _ => exact absurd (by simp) hlen

theorem newBlock_inv (h : Holds c s .gotNew) (hs : s.state = .new) (hc : confirmedEnc s.trace = none) :
    After c (newBlock c s) (Ended c) := by
  have hr : After c (if needNegotiation s (inter c.compOpts c.supComp) (inter c.encOpts c.supEnc) = true
      then negotiate c s (inter c.compOpts c.supComp) (inter c.encOpts c.supEnc) else (true, s)) (Negotiated c) :=
    .ite (fun _ => negotiate_inv h) fun hneed =>
      ⟨fun _ => .inr ⟨by simp [hs], _, .inl rfl, h, by simp [hc], fun hne =>
        inter_sub (enc_of_not_needNegotiation (by simpa using hneed) hne)⟩, _, h⟩
  unfold newBlock
  refine hr.bind fun hr' => .ite (fun hnf => ?_) fun hf => ?_
  · exact hr'.elim (fun hf => absurd hf.1 hnf) authenticate_inv
  · exact hr'.elim (fun hf' => ⟨fun _ => .inr hf', _, hf'.2⟩) fun hr => absurd hr.1 hf

/-- what `EstablishSession` leaves behind when it reports success: the handshake is over (in state
`established` or `failed`), or the first envelope was not a fresh `new` session and nothing could be
answered (the peer is gone; the state is still `new`) -/
def EstablishPost (c : Cfg) (s : St) : Prop := Ended c s ∨ (s.state = .new ∧ Holds c s .mustFail)

theorem establish_inv (c : Cfg) (s : St) (h0 : s.trace = []) : After c (establish c s) (EstablishPost c) := by
  have hstart : Holds c s .start := by
    unfold Holds; rw [h0]
    exact ⟨rfl, rfl, rfl, fun _ => rfl, nofun⟩
  have refuse : ∀ {s' : St}, Holds c s' .mustFail → After c (failSession c s') (EstablishPost c) := fun h =>
    (h.failed (.inl rfl)).mono fun hf => .inl (.inr hf)
  unfold establish
  refine hstart.guard fun _ => hstart.guard fun hs => hstart.await .start fun x hx hq => ?_
  -- an envelope that bears an id is refused
  refine .ite (fun hid => refuse (by simpa [hid] using hq)) fun hid => ?_
  have hst : (recvSession c s).2.state = .new := by simpa using hs
  have hblock : After c (if x.state = .new then newBlock c (recvSession c s).2 else (true, (recvSession c s).2))
      (EstablishPost c) :=
    .ite (fun hnew => (newBlock_inv (by simpa [hnew, Decidable.not_not.mp hid] using hq) hst
        (by rw [recvSession_some hx, h0]; rfl)).mono .inl)
      fun hnew => ⟨fun _ => .inr ⟨hst, by simpa [hnew] using hq⟩, _, hq⟩
  refine hblock.bind fun hr => .ite (fun hg => ?_) fun _ => ⟨fun _ => hr, hblock.2⟩
  -- neither established nor failed, and still connected
  rcases hr with (⟨h1, _⟩ | ⟨h1, _⟩) | ⟨_, h1⟩
  · exact absurd h1 hg.1
  · exact absurd h1 hg.2.1
  · exact refuse h1

theorem run_inv (c : Cfg) (recvs : List Recv) (auths : List AuthOut) (regs : List (Option Node))
    (sendOk : List Bool) (setEncOk : Bool) (enc0 : Opt) :
    let r := run c recvs auths regs sendOk setEncOk enc0
    ∃ p, Inv c r.final.state r.final.enc r.trace.reverse p ∧
      (r.ok = true → (r.final.state = .established → p = .established) ∧ (r.final.state = .failed → p = .term) ∧
        p ≠ .ended) := by
  simp only [run, List.reverse_reverse]
  have ⟨h1, h2⟩ := establish_inv c { recvs, auths, regs, sendOk, setEncOk, enc := enc0 } rfl
  cases hok : (establish c { recvs, auths, regs, sendOk, setEncOk, enc := enc0 }).1
  · exact h2.imp fun p h => ⟨h, nofun⟩
  · rcases h1 hok with (⟨hs, h⟩ | ⟨hs, h⟩) | ⟨hs, h⟩
    · exact ⟨_, h, fun _ => ⟨fun _ => rfl, by simp [hs], nofun⟩⟩
    · exact ⟨_, h, fun _ => ⟨by simp [hs], fun _ => rfl, nofun⟩⟩
    · exact ⟨_, h, fun _ => ⟨by simp [hs], by simp [hs], nofun⟩⟩

end Props.Hs
