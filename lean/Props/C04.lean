import LimeModel.Chan
import LimeModel.Lemmas.Run
/-!
# C04 — established channels deliver every envelope exactly once, intact, in order

For any number of sender goroutines, any programs, any stream capacity `cap ≥ 0`, any consumer
speed and **every** interleaving of send / receive / push / consume steps:
* `chan_invariant` — per kind, `delivered ++ queued ++ held ++ on the wire = sent` (as sequences),
  and per sender `sent ++ still to send = program`;
* `per_sender_per_kind_order` — what a consumer of kind `k` has seen from sender `i` is a prefix of
  what `i`'s program sends of kind `k`; `no_fabrication`; `no_duplication` (nothing is delivered
  more often than it was sent);
* `no_deadlock`, `quiescent_complete`, `quiescent_judged` — as long as consumers keep taking, the
  system moves until every program is finished and everything sent has been delivered, and that
  final state satisfies the judge used on the implementation's histories.
"Intact" is C01 (`envelope_roundtrip`) and C12 (`stream_reassembly`) for the byte level.
-/
namespace Props.C04
open LimeModel.Chan

theorem ofKind_append (k a b) : ofKind k (a ++ b) = ofKind k a ++ ofKind k b := by simp [ofKind]
theorem bySender_append (i a b) : bySender i (a ++ b) = bySender i a ++ bySender i b := by simp [bySender]
theorem bySender_ofKind (i k l) : bySender i (ofKind k l) = ofKind k (bySender i l) := by
  simp only [bySender, ofKind, List.filter_filter]
  congr 1; funext e; exact Bool.and_comm ..

structure Inv (orig : Nat → List Env) (s : CS) : Prop where
  /-- nothing lost, duplicated, invented or reordered between "Send returned" and "consumer saw it" -/
  flow : ∀ k, s.delivered k ++ s.q k ++ holdK k s.hold ++ ofKind k s.wire = ofKind k s.sent
  qkind : ∀ k e, e ∈ s.q k → e.kind = k
  /-- each sender goes through its program in order -/
  progs : ∀ i, bySender i s.sent ++ s.prog i = orig i
  tagged : ∀ i e, e ∈ s.prog i → e.sender = i

theorem inv_init (progs : Nat → List Env) (hw : ∀ i e, e ∈ progs i → e.sender = i) : Inv progs (init progs) :=
  ⟨by intro k; simp [init, holdK, ofKind], by intro k e h; simp [init] at h, by intro i; simp [init, bySender], hw⟩

theorem inv_step (orig) (cap : Nat) (s s' : CS) (l : CL) (h : Inv orig s) (hs : cstep cap s l = some s') :
    Inv orig s' := by
  obtain ⟨hf, hq, hp, ht⟩ := h
  revert hs
  fun_cases cstep cap s l <;> intro hs <;> cases hs
  case case2 i e rest hpi =>
    -- send: the head of `i`'s program goes to the end of the wire and of what was sent
    have hes : e.sender = i := ht i e (by rw [hpi]; exact List.mem_cons_self ..)
    have move : ∀ j, bySender j [e] ++ updf s.prog i rest j = s.prog j := fun j => by
      by_cases hj : j = i
      · subst hj; simp [bySender, updf, hes, hpi]
      · simp [bySender, updf, hj, hes ▸ Ne.symm hj]
    refine ⟨fun k => ?_, hq, fun j => ?_, fun j x hx => ht j x (move j ▸ List.mem_append_right _ hx)⟩
    · simp only [ofKind_append, ← hf k, List.append_assoc]
    · simp only [bySender_append, List.append_assoc, move, hp j]
  case case3 e w hw hh =>
    -- pop: the head of the wire is held
    have move : ∀ k, holdK k (some e) ++ ofKind k w = ofKind k (e :: w) := fun k => by
      by_cases he : e.kind = k <;> simp [holdK, ofKind, he]
    refine ⟨fun k => ?_, hq, hp, ht⟩
    have := hf k
    rw [hh, hw, ← move] at this
    simpa [holdK] using this
  case case5 e hh _ =>
    -- push: the held envelope goes to the end of the stream of its kind
    have move : ∀ k, updf s.q e.kind (s.q e.kind ++ [e]) k = s.q k ++ holdK k (some e) := fun k => by
      by_cases he : k = e.kind
      · subst he; simp [updf, holdK]
      · simp [updf, holdK, he, Ne.symm he]
    refine ⟨fun k => ?_, fun k x (hx : x ∈ updf _ _ _ k) => ?_, hp, ht⟩
    · have := hf k
      rw [hh] at this
      simpa [move, holdK] using this
    · rw [move, List.mem_append] at hx
      rcases hx with hx | hx
      · exact hq k x hx
      · by_cases he : e.kind = k <;> simp [holdK, he] at hx
        exact hx ▸ he
  case case8 k' e r hqk =>
    -- consume: the head of stream `k'` goes to the end of what its consumer has seen
    have move : ∀ k, updf s.delivered k' (s.delivered k' ++ [e]) k ++ updf s.q k' r k = s.delivered k ++ s.q k :=
      fun k => by
      by_cases hk : k = k'
      · subst hk; simp [updf, hqk]
      · simp [updf, hk]
    refine ⟨fun k => ?_, fun k x (hx : x ∈ updf _ _ _ k) => hq k x ?_, hp, ht⟩
    · simp only [move, hf k]
    · by_cases hk : k = k'
      · subst hk; rw [hqk]; exact List.mem_cons_of_mem _ (by simpa [updf] using hx)
      · simpa [updf, hk] using hx

/-- **C04 (invariant)**: every reachable state, under every schedule. -/
theorem chan_invariant (orig : Nat → List Env) (hw : ∀ i e, e ∈ orig i → e.sender = i) (cap : Nat)
    (ls : List CL) (s : CS) (hr : runL cap (init orig) ls = some s) : Inv orig s :=
  LimeModel.run_preserves (fun _ => rfl) (fun s l ls => by simp only [runL]; cases cstep cap s l <;> rfl)
    (inv_step orig cap) ls _ s (inv_init orig hw) hr

theorem delivered_prefix (orig s) (h : Inv orig s) (k : Nat) : s.delivered k <+: ofKind k s.sent :=
  ⟨s.q k ++ holdK k s.hold ++ ofKind k s.wire, by have := h.flow k; simpa [List.append_assoc] using this⟩

/-- **C04 (order)**: from each sender, per kind, in program order and without gaps. -/
theorem per_sender_per_kind_order (orig s) (h : Inv orig s) (i k : Nat) :
    bySender i (s.delivered k) <+: ofKind k (orig i) := by
  obtain ⟨x, hx⟩ := delivered_prefix orig s h k
  refine ⟨bySender i x ++ ofKind k (s.prog i), ?_⟩
  have h1 : bySender i (s.delivered k) ++ bySender i x = ofKind k (bySender i s.sent) := by
    rw [← bySender_append, hx, bySender_ofKind]
  have h2 := congrArg (ofKind k) (h.progs i)
  rw [ofKind_append] at h2
  rw [← List.append_assoc, h1, h2]

/-- **C04 (nothing invented)** -/
theorem no_fabrication (orig s) (h : Inv orig s) (k : Nat) (e : Env) (he : e ∈ s.delivered k) :
    e ∈ orig e.sender ∧ e.kind = k := by
  have hp := per_sender_per_kind_order orig s h e.sender k
  have hm : e ∈ bySender e.sender (s.delivered k) := by simp [bySender, he]
  simpa only [ofKind, List.mem_filter, decide_eq_true_eq] using hp.subset hm

/-- **C04 (exactly once, upper half)**: nothing is delivered more often than it was sent. -/
theorem no_duplication (orig s) (h : Inv orig s) (k : Nat) (e : Env) :
    (s.delivered k).count e ≤ (orig e.sender).count e := by
  have hp := per_sender_per_kind_order orig s h e.sender k
  have h1 : (s.delivered k).count e = (bySender e.sender (s.delivered k)).count e := by
    unfold bySender; rw [List.count_filter]; simp
  rw [h1]
  exact Nat.le_trans (hp.sublist.count_le e) ((List.filter_sublist (l := orig e.sender)).count_le e)

/-- a state in which no step is enabled -/
def Stuck (cap : Nat) (s : CS) : Prop := ∀ l, cstep cap s l = none

/-- **C04 (no deadlock)**: as long as something is unsent, in transit or queued, a step is enabled
(consumers keep taking). -/
theorem no_deadlock (cap : Nat) (s : CS)
    (h : (∃ i, s.prog i ≠ []) ∨ s.wire ≠ [] ∨ s.hold ≠ none ∨ ∃ k, s.q k ≠ []) : ¬ Stuck cap s := by
  intro hst
  -- a held envelope can be pushed, or else its stream is full and can be consumed from
  have hh : s.hold = none := by
    cases hh : s.hold with
    | none => rfl
    | some e =>
      have h1 := hst .push
      have h2 := hst (.consume e.kind)
      cases hq : s.q e.kind with
      | nil => simp [cstep, hh, hq] at h1
      | cons a r => simp [cstep, hq] at h2
  rcases h with ⟨i, hi⟩ | hw | hh' | ⟨k, hk⟩
  · have := hst (.send i)
    cases hp : s.prog i with
    | nil => exact hi hp
    | cons e r => simp [cstep, hp] at this
  · have := hst .pop
    cases hw' : s.wire with
    | nil => exact hw hw'
    | cons e w => simp [cstep, hh, hw'] at this
  · exact hh' hh
  · have := hst (.consume k)
    cases hq : s.q k with
    | nil => exact hk hq
    | cons a r => simp [cstep, hq] at this

/-- **C04 (exactly once, lower half)**: when nothing can move any more, every program has been sent
completely and everything sent has been delivered. -/
theorem quiescent_complete (orig s) (cap : Nat) (h : Inv orig s) (hst : Stuck cap s) :
    (∀ i, bySender i s.sent = orig i) ∧ ∀ k, s.delivered k = ofKind k s.sent := by
  have : ¬ _ := fun e => no_deadlock cap s e hst
  simp only [not_or, not_exists, ne_eq, Classical.not_not] at this
  obtain ⟨hp, hw, hh, hq⟩ := this
  refine ⟨fun i => by have := h.progs i; rwa [hp i, List.append_nil] at this, fun k => ?_⟩
  have := h.flow k
  rw [hq k, hh, hw] at this
  simpa [holdK, ofKind] using this

/-- **C04 (the judge is sound for the model)**: the final state of every complete run satisfies
the predicate that judges the implementation's histories. -/
theorem quiescent_judged (orig s) (cap nS nK : Nat) (h : Inv orig s) (hst : Stuck cap s)
    (hS : ∀ i, nS ≤ i → orig i = []) : judge nS nK orig s.delivered = true := by
  obtain ⟨h1, h2⟩ := quiescent_complete orig s cap h hst
  simp only [judge, List.all_eq_true, List.mem_range, Bool.and_eq_true, decide_eq_true_eq]
  intro k _
  refine ⟨?_, ?_⟩
  · intro e he
    obtain ⟨hm, hk⟩ := no_fabrication orig s h k e he
    refine ⟨hk, ?_⟩
    apply Classical.byContradiction; intro hlt
    rw [hS e.sender (by omega)] at hm; cases hm
  · intro i _
    rw [h2 k, bySender_ofKind, h1 i]

/-- Non-vacuity: two senders, two kinds, capacity 0, one complete schedule. -/
def demoProgs : Nat → List Env
  | 0 => [⟨0, 0, 1⟩, ⟨1, 0, 2⟩]
  | 1 => [⟨0, 1, 1⟩]
  | _ => []

example : (runL 0 (init demoProgs) [.send 0, .send 1, .pop, .push, .send 0, .consume 0, .pop, .push, .pop, .consume 0,
      .push, .consume 1]).map (fun s => (s.delivered 0, s.delivered 1, s.wire, s.hold)) =
    some ([⟨0, 0, 1⟩, ⟨0, 1, 1⟩], [⟨1, 0, 2⟩], [], none) := by decide

end Props.C04
