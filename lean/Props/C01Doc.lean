import LimeModel.Lemmas.RawRoundtrip
/-!
# C01 (documents): every well-formed document, nested to any depth, decodes back from its encoding
-/
namespace Props.C01
open LimeModel LimeModel.Json

theorem container_fields (a b : Json) :
    fieldVals cs!"type" [(cs!"type", a), (cs!"value", b)] = [a] ∧
    fieldVals cs!"value" [(cs!"type", a), (cs!"value", b)] = [b] := by
  have F := fieldVals_optFields [(cs!"type", some a), (cs!"value", some b)]
    (by simp only [List.map_cons, List.map_nil]; decide)
  simp only [List.forall_mem_cons] at F
  exact ⟨F.1, F.2.1⟩

theorem collection_fields (total : Int) (a b : Json) :
    let kvs := totalField total ++ [(cs!"itemType", a), (cs!"items", b)]
    fieldVals cs!"total" kvs = (if total = 0 then none else some (.num (.int total))).toList ∧
    fieldVals cs!"itemType" kvs = [a] ∧ fieldVals cs!"items" kvs = [b] := by
  intro kvs
  have F := fieldVals_optFields
    [(cs!"total", if total = 0 then none else some (.num (.int total))), (cs!"itemType", some a), (cs!"items", some b)]
    (by simp only [List.map_cons, List.map_nil]; decide)
  have e : optFields [(cs!"total", if total = 0 then none else some (.num (.int total))), (cs!"itemType", some a),
      (cs!"items", some b)] = kvs := by
    simp only [kvs, totalField]; split <;> rfl
  rw [e] at F
  simp only [List.forall_mem_cons] at F
  exact ⟨F.1, F.2.1, F.2.2.1⟩

mutual
theorem doc_roundtrip : (t : MT) → (d : Doc) → Doc.wf t d = true → Doc.dec (Doc.enc d) t = .ok d
  | t, .text s, h => by
    simp only [Doc.wf, beq_iff_eq] at h
    rw [Doc.enc, Doc.dec_eq, h]
  | t, .json kvs, h => by
    simp only [Doc.wf, Bool.and_eq_true, beq_iff_eq] at h
    rw [Doc.enc, Doc.dec_eq, h.1.1]
    simp only [Json.normKvs_of_isNorm kvs h.2, dedupKeys_of_distinct kvs h.1.2]
  | t, .ping, h => by
    simp only [Doc.wf, beq_iff_eq] at h
    rw [Doc.enc, Doc.dec_eq, h]
  | t, .container t' v, h => by
    simp only [Doc.wf, Bool.and_eq_true, beq_iff_eq] at h
    obtain ⟨⟨hf, ht'⟩, hv⟩ := h
    obtain ⟨h1, h2⟩ := container_fields (.str (printMT t')) (Doc.enc v)
    rw [Doc.enc, Doc.dec_eq, hf]
    simp only [h1, foldVals_single, ptrText, parse_print_mt t' ht', Outcome.bind, Outcome.ofOption,
      rawLast_of_fieldVals (o := some _) h2 (by simp [Doc.enc_ne_null]), doc_roundtrip t' v hv]
  | t, .collection total it items, h => by
    simp only [Doc.wf, Bool.and_eq_true, beq_iff_eq] at h
    obtain ⟨⟨⟨hf, htot⟩, hit⟩, hitems⟩ := h
    obtain ⟨h1, h2, h3⟩ := collection_fields total (.str (printMT it)) (Doc.encItems items)
    rw [Doc.enc, Doc.dec_eq, hf]
    simp only [h1, h2, itemsField, h3, rt_int total htot, foldVals_single, ptrText, parse_print_mt it hit,
      Outcome.bind, Outcome.ofOption]
    cases items with
    | none => rfl
    | some l => simp only [Doc.encItems, docList_roundtrip it l hitems]
theorem docList_roundtrip : (t : MT) → (l : List Doc) → Doc.wfList t l = true →
    Doc.decList (Doc.encList l) t = .ok l
  | _, [], _ => by rw [Doc.encList, Doc.decList]
  | t, d :: r, h => by
    simp only [Doc.wfList, Bool.and_eq_true] at h
    rw [Doc.encList, Doc.decList_cons (Doc.enc_ne_null d), doc_roundtrip t d h.1, docList_roundtrip t r h.2]
    rfl
end

end Props.C01
