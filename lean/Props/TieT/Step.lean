import Props.TieT.Common
/-! Tie to `LimeModel/Generated.lean`, regenerated from the lime-go sources on every run (DESIGN.md 2.2), in a module of
its own so that a changed fact breaks the properties that rest on it and no other. -/
namespace Props.Tie
open LimeModel

open LimeModel.ServerHs in
/-- `SessionState.Step`: the model's order of the session states is the source's -/
theorem step_tie :
    [SState.new, .negotiating, .authenticating, .established, .finishing, .finished, .failed].map
        (fun s => (s.name, (s.step : Int))) =
      Generated.sessionStateStep.map (fun p => (p.1.toList, p.2)) := by decide +kernel

end Props.Tie
