import Props.TieT.Common
/-! Tie to `LimeModel/Generated.lean`, regenerated from the lime-go sources on every run (DESIGN.md 2.2), in a module of
its own so that a changed fact breaks the properties that rest on it and no other. -/
namespace Props.Tie
open LimeModel

/-- the order in which `rawEnvelope.envelopeType` discriminates the kinds (mirrored by `Raw.kind`) -/
theorem envelopeType_order_tie :
    Generated.envelopeTypeOrder =
      [(["Method", "URI"], "RequestCommand"), (["Method", "Status"], "ResponseCommand"),
       (["Event"], "Notification"), (["Content"], "Message"), (["State"], "Session")] := by decide +kernel

end Props.Tie
