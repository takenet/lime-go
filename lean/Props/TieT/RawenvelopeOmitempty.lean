import Props.TieT.Common
/-! Tie to `LimeModel/Generated.lean`, regenerated from the lime-go sources on every run (DESIGN.md 2.2), in a module of
its own so that a changed fact breaks the properties that rest on it and no other. -/
namespace Props.Tie
open LimeModel

/-- every member of `rawEnvelope` has `omitempty` (the model leaves out every empty member) -/
theorem rawEnvelope_omitempty_tie : Generated.rawEnvelopeFields.all (fun f => f.2.2.1) = true := by decide +kernel

end Props.Tie
