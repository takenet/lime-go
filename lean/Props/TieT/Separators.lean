import Props.TieT.Common
/-! Tie to `LimeModel/Generated.lean`, regenerated from the lime-go sources on every run (DESIGN.md 2.2), in a module of
its own so that a changed fact breaks the properties that rest on it and no other. -/
namespace Props.Tie
open LimeModel

/-- the separators of the three text grammars (mirrored by `parseIdentity`, `parseNode`, `parseMT`) -/
theorem separators_tie :
    Generated.identitySeps = ["@"] ∧ Generated.nodeSeps = ["/"] ∧ Generated.mediaTypeSeps = ["+", "/"] := by decide +kernel

end Props.Tie
