import Props.TieT.Common
/-! Tie to `LimeModel/Generated.lean`, regenerated from the lime-go sources on every run (DESIGN.md 2.2), in a module of
its own so that a changed fact breaks the properties that rest on it and no other. -/
namespace Props.Tie
open LimeModel

/-- which members are plain values, pointers, slices and maps (decides how `null` and absence
decode in the model) -/
theorem rawEnvelope_shapes_tie :
    Generated.rawEnvelopeFields.map (fun f => f.2.2.2) =
      ["value", "ptr", "ptr", "ptr", "map", "ptr", "ptr", "ptr", "ptr", "ptr", "ptr", "ptr", "ptr", "ptr",
       "slice", "ptr", "slice", "ptr", "slice", "ptr", "ptr"] := by decide +kernel

end Props.Tie
