import Props.TieT.Common
/-! Tie to `LimeModel/Generated.lean`, regenerated from the lime-go sources on every run (DESIGN.md 2.2), in a module of
its own so that a changed fact breaks the properties that rest on it and no other. -/
namespace Props.Tie
open LimeModel

/-- member names and their order in the wire object are those of the `rawEnvelope` struct tags -/
theorem rawEnvelope_names_tie :
    (fullRaw.members (some .null) (some .null) (some .null)).map (·.1) =
      Generated.rawEnvelopeFields.map (fun f => f.2.1.toList) := by decide +kernel

end Props.Tie
