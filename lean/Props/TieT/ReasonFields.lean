import Props.TieT.Common
/-! Tie to `LimeModel/Generated.lean`, regenerated from the lime-go sources on every run (DESIGN.md 2.2), in a module of
its own so that a changed fact breaks the properties that rest on it and no other. -/
namespace Props.Tie
open LimeModel

theorem reason_fields_tie :
    Generated.reasonFields = [("Code", "code", true, "value"), ("Description", "description", true, "value")] := by
  decide +kernel

end Props.Tie
