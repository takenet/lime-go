import Props.TieT.Common
/-! Tie to `LimeModel/Generated.lean`, regenerated from the lime-go sources on every run (DESIGN.md 2.2), in a module of
its own so that a changed fact breaks the properties that rest on it and no other. -/
namespace Props.Tie
open LimeModel

/-- every authentication scheme constant of the code has a factory in the model, and vice versa -/
theorem authSchemes_tie :
    authSchemes.all (fun s => (strs Generated.authenticationSchemes).contains s) = true ∧
    (strs Generated.authenticationSchemes).all (fun s => authSchemes.contains s) = true := by decide +kernel

end Props.Tie
