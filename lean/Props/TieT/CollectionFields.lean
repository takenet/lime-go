import Props.TieT.Common
/-! Tie to `LimeModel/Generated.lean`, regenerated from the lime-go sources on every run (DESIGN.md 2.2), in a module of
its own so that a changed fact breaks the properties that rest on it and no other. -/
namespace Props.Tie
open LimeModel

theorem collection_fields_tie :
    Generated.rawCollectionFields =
      [("Total", "total", true, "value"), ("ItemType", "itemType", false, "ptr"), ("Items", "items", false, "slice")] := by
  decide +kernel

end Props.Tie
