import Props.C07
/-!
# C03 — no session is established without successful authentication

For every configuration, every client script of any length, every outcome sequence of the
`Authenticate` and `Register` callbacks, every pattern of failing sends and every `SetEncryption`
outcome: each `established` envelope in the trace of `ServerHs.run` is licensed as `okRev` demands.

The model is not walked again: every trace is a word of the protocol automaton (`C07.emission_order`),
and every word of the automaton is licensed. The automaton has a single edge into each of the phases
`registered`, `authed`, `gotAuth`, and only `registered` lets an `established` envelope out, so such
an envelope sits on top of exactly the three events `okRev` asks for.
-/
namespace Props.C03
open LimeModel LimeModel.ServerHs LimeModel.ServerSpec

theorem stepPhase_into {c : Cfg} {p e p'} : stepPhase c p e = some p' →
    match p' with
    | .registered n => ∃ x, p = .authed x .role ∧ e = .regCall x.from_ (some n)
    | .authed x out => p = .gotAuth x ∧ ∃ sch enc, e = .authCall x.from_.name x.from_.domain sch x.auth enc out
    | .gotAuth x => p = .awaitAuth ∧ e = .recv (.ses x) ∧ validAuth c x = true
    | _ => True := by
  -- the cases are the leaves of `stepPhase` from top to bottom, the two branches of an `if` counted apart
  fun_cases stepPhase c p e <;> intro h <;> cases h
  case case14 => exact ⟨rfl, rfl, ‹_›⟩  -- `.awaitAuth, .recv (.ses x)`, valid: into `gotAuth`
  case case17 hc => obtain ⟨rfl, rfl, rfl⟩ := hc; exact ⟨rfl, _, _, rfl⟩  -- `.gotAuth x, .authCall ..`: into `authed`
  case case19 => exact ⟨_, rfl, rfl⟩  -- `.authed x .role, .regCall _ (some n)`: into `registered`
  all_goals trivial

/-- each test the automaton applies to an envelope fixes the envelope's state -/
theorem state_of_test {c : Cfg} {s : Ses} :
    (isNegOpts c s = true → s.state = .negotiating) ∧ (∀ a b, isNegConf c a b s = true → s.state = .negotiating) ∧
    (isAuthOpts c s = true → s.state = .authenticating) ∧ (∀ d, isRoundTrip c d s = true → s.state = .authenticating) ∧
    (isFailed c s = true → s.state = .failed) := by
  simp only [isNegOpts, isNegConf, isAuthOpts, isRoundTrip, isFailed, Bool.and_eq_true, decide_eq_true_eq, and_imp]
  refine ⟨?_, ?_, ?_, ?_, ?_⟩ <;> intros <;> assumption

theorem stepPhase_emit_established {c : Cfg} {p e s enc p'} (h : stepPhase c p e = some p') (he : e = .emit s enc)
    (hs : s.state = .established) : ∃ n, p = .registered n ∧ isEstablished c n s = true := by
  have ⟨t1, t2, t3, t4, t5⟩ := state_of_test (c := c) (s := s)
  rw [hs] at t1 t2 t3 t4 t5
  revert h
  -- `e` is a variable for `fun_cases` to put the pattern of each edge in its place
  fun_cases stepPhase c p e <;> intro h <;> cases h <;> cases he
  -- the edges that take an envelope are left, each with the test it passed
  case case4 ht => exact nomatch t1 ht  -- `.gotNew, .emit s _` with `isNegOpts`
  case case5 ht | case12 ht => exact nomatch t3 ht  -- `.gotNew, .emit s _` and `.confirmed, .emit s _` with `isAuthOpts`
  case case10 ht => exact nomatch t2 _ _ ht  -- `.gotSel a b, .emit s _` with `isNegConf`
  case case22 ht | case28 ht => exact nomatch t5 ht  -- `.authed _ .unknown, .emit s _` and `.mustFail, .emit s _` with `isFailed`
  case case24 ht => exact nomatch t4 _ ht  -- `.authed _ (.roundTrip d), .emit s _` with `isRoundTrip`
  case case26 ht => exact ⟨_, rfl, ht⟩  -- `.registered n, .emit s _` with `isEstablished`

theorem phaseOf_registered {c : Cfg} {n : Node} {t : List Ev} (h : phaseOf c t = some (.registered n)) :
    ∃ x sch enc rest, t = .regCall x.from_ (some n) :: .authCall x.from_.name x.from_.domain sch x.auth enc .role ::
      .recv (.ses x) :: rest ∧ validAuth c x = true := by
  cases t with
  | nil => cases h
  | cons e1 t =>
  obtain ⟨p1, h1, s1⟩ := phaseOf_cons_eq_some h
  obtain ⟨x, rfl, rfl⟩ := stepPhase_into s1
  cases t with
  | nil => cases h1
  | cons e2 t =>
  obtain ⟨p2, h2, s2⟩ := phaseOf_cons_eq_some h1
  obtain ⟨rfl, sch, enc, rfl⟩ := stepPhase_into s2
  cases t with
  | nil => cases h2
  | cons e3 t =>
  obtain ⟨p3, _, s3⟩ := phaseOf_cons_eq_some h2
  obtain ⟨rfl, rfl, hv⟩ := stepPhase_into s3
  exact ⟨x, sch, enc, t, rfl, hv⟩

theorem okRev_of_phaseOf (c : Cfg) : ∀ (t : List Ev) (p : Phase), phaseOf c t = some p → okRev c t = true := by
  intro t
  induction t with
  | nil => intros; rfl
  | cons e rest ih =>
    intro p' h
    obtain ⟨p, hp, hs⟩ := phaseOf_cons_eq_some h
    have hrest := ih p hp
    cases e with
    | emit s enc =>
      simp only [okRev, hrest, Bool.and_true]
      split
      · rename_i hest
        obtain ⟨n, rfl, hn⟩ := stepPhase_emit_established hs rfl hest
        obtain ⟨x, sch, enc', t, rfl, hv⟩ := phaseOf_registered hp
        -- the envelope's own stamps and node come from the edge out of `registered n`, the three facts about
        -- the client's envelope `x` from the edge into `gotAuth x`; the rest is the shape of the trace
        obtain ⟨⟨⟨hid, hfrom⟩, _⟩, hto⟩ : ((s.id = c.sid ∧ s.from_ = c.node) ∧ s.state = .established) ∧ s.to = n := by
          simpa [isEstablished, stamped] using hn
        obtain ⟨⟨hxst, hxid⟩, hxsch⟩ : (x.state = .authenticating ∧ x.id = c.sid) ∧ c.schemeOpts.contains x.scheme = true := by
          simpa [validAuth] using hv
        simpa [hid, hfrom, hto, hxst, hxid] using hxsch
      · rfl
    | _ => exact hrest

/-- **C03**: in every run — any configuration, client script, callback outcomes, send failures,
`SetEncryption` outcome, initial encryption — every `established` envelope is licensed: the
`Authenticate` callback returned a known role for exactly the identity and credentials of the client's
latest envelope (the scheme handed to the callback is not compared), that envelope's scheme is offered, it bears the session id, the
`Register` callback then supplied the node, and the established envelope announces exactly that
node under the session id; nothing lies between the three events (no riding on a rejected attempt). -/
theorem established_requires_auth (c : Cfg) (recvs : List Recv) (auths : List AuthOut)
    (regs : List (Option Node)) (sendOk : List Bool) (setEncOk : Bool) (enc0 : Opt) :
    okRev c (obs (run c recvs auths regs sendOk setEncOk enc0).trace.reverse) = true := by
  obtain ⟨p, hp⟩ := Option.isSome_iff_exists.mp (C07.emission_order c recvs auths regs sendOk setEncOk enc0)
  exact okRev_of_phaseOf c _ p hp

/-- Non-vacuity: a cooperative guest client is established, and its trace contains the licensed
`established` envelope. -/
def demoCfg : Cfg :=
  { sid := cs!"S", node := ⟨cs!"postmaster", cs!"d", cs!"s"⟩, compOpts := [cs!"none"], encOpts := [cs!"none"], schemeOpts := [cs!"guest"], supComp := [cs!"none"], supEnc := [cs!"none", cs!"tls"] }

def demoRun : Result :=
  run demoCfg [.ses { state := .new }, .ses { id := cs!"S", from_ := ⟨cs!"u", cs!"d", cs!"i"⟩, state := .authenticating, scheme := cs!"guest", auth := some .guest }] [.role] [some ⟨cs!"u", cs!"d", cs!"x"⟩] [] true

example : demoRun.ok = true ∧ demoRun.final.state = .established ∧
    demoRun.trace.any (fun e => match e with | .emit s _ => s.state == .established | _ => false) = true := by
  decide

end Props.C03
