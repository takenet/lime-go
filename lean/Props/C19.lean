import LimeModel.ClientLife
/-!
# C19 — the client recovers from any unrequested loss of its session

For every sequence of faults (server finish / fail, dropped or half-closed connection, undecodable
bytes, JSON that is no envelope, oversized envelope), sends and listener iterations:
* `never_wedged` — the client never holds a channel that looks fine and has no receiver;
* `next_operation_rebuilds` — after a fault the next operation works on a fresh established
  session (the session counter grows), and that session has a live receiver;
* `listener_progress` — every iteration of the listener goroutine ends blocked on a live receiver
  (no busy loop), having rebuilt the channel if it had to;
* `unfixed_wedges` — the tree before the repair: after undecodable input the client is deaf and its
  listener spins, for ever.
-/
namespace Props.C19
open LimeModel.ClientLife

def Inv (s : CL) : Prop := s.channelOK = true → s.receiverAlive = true

/-- with both repairs, whatever ends the receiver also makes the channel look broken -/
theorem fault_not_ok (s : CL) (f : Fault) : (fault Fix.all s f).channelOK = false := by
  cases f <;> simp [fault, CL.channelOK]

theorem getOrBuild_alive (s : CL) (h : Inv s) : (getOrBuild s).receiverAlive = true := by
  unfold getOrBuild; split
  · exact h ‹_›
  · rfl

theorem inv_step (s : CL) (o : Op) (h : Inv s) : Inv (step Fix.all s o) := by
  cases o with
  | fault f => exact fun hok => absurd hok (by rw [step, fault_not_ok]; decide)
  | send => exact fun _ => getOrBuild_alive s h
  | listen => exact fun _ => getOrBuild_alive s h

theorem inv_run (ops : List Op) : Inv (run Fix.all ops) :=
  List.foldlRecOn ops (step Fix.all) (fun _ => rfl) fun s h o _ => inv_step s o h

/-- **C19 (never wedged)** -/
theorem never_wedged (ops : List Op) : (run Fix.all ops).wedged = false := by
  have h := inv_run ops
  unfold CL.wedged
  cases hc : (run Fix.all ops).channelOK with
  | false => rfl
  | true => simp [h hc]

/-- **C19 (recovery)**: whatever happened before, a fault followed by a send or a listener iteration leaves the
client on an established, connected channel with a live receiver, and that channel is a fresh one. -/
theorem next_operation_rebuilds (ops : List Op) (f : Fault) :
    let before := run Fix.all ops
    let after := getOrBuild (fault Fix.all before f)
    after.channelOK = true ∧ after.receiverAlive = true ∧ after.sessions = before.sessions + 1 := by
  simp only [getOrBuild, fault_not_ok, Bool.false_eq_true, ↓reduceIte]
  -- a fresh channel; no fault touches the session counter
  exact ⟨rfl, trivial, by cases f <;> rfl⟩

/-- **C19 (the listener does not spin)**: every iteration ends blocked on a live receiver. -/
theorem listener_progress (ops : List Op) : (listenerIter (run Fix.all ops)).1 = true :=
  getOrBuild_alive _ (inv_run ops)

theorem wedged_stays (fixed : Fix) (s : CL) (o : Op) (ho : o = .send ∨ o = .listen) (h : s.wedged = true) :
    step fixed s o = s := by
  have hok : s.channelOK = true := by simp [CL.wedged] at h; exact h.1
  rcases ho with rfl | rfl <;> simp [step, listenerIter, getOrBuild, hok]

/-- the tree before the repair: deaf and spinning, and no operation ever repairs it -/
theorem unfixed_wedges (f : Fault) (hf : f = .garbage ∨ f = .notEnvelope ∨ f = .oversize ∨ f = .oddSession) (ops : List Op)
    (hops : ∀ o ∈ ops, o = .send ∨ o = .listen) :
    (run Fix.none (.fault f :: ops)).wedged = true ∧ (listenerIter (run Fix.none (.fault f :: ops))).1 = false := by
  have h0 : (step Fix.none {} (.fault f)).wedged = true := by
    rcases hf with rfl | rfl | rfl | rfl <;> decide
  have hw : (run Fix.none (.fault f :: ops)).wedged = true :=
    List.foldlRecOn ops (step Fix.none) h0 fun s h o ho => (wedged_stays Fix.none s o (hops o ho) h).symm ▸ h
  refine ⟨hw, ?_⟩
  simp [CL.wedged] at hw
  simp [listenerIter, getOrBuild, hw.1, hw.2]

/-- Non-vacuity: garbage, then a send: a second session exists. -/
example : (run Fix.all [.fault .garbage, .send]).sessions = 2 := by decide
example : (run Fix.none [.fault .garbage, .send]).sessions = 1 := by decide

end Props.C19
