import LimeModel.ReadLimit
import LimeModel.Generated
/-!
# C16 — inbound envelope size is bounded by the read limit

For every limit `L`, every frame length, every amount already buffered or still to come, and every
read-size oracle (i.e. every fragmentation and every buffering policy of the stream decoder).
Everything follows from `recv_spec`: a receive is determined by the number `d` of bytes it reads.
-/
namespace Props.C16
open LimeModel.ReadLimit

theorem clamp_le {r m b : Nat} (hb : b ≠ 0) (hm : m ≤ b) : max 1 (min r m) ≤ b :=
  Nat.max_le.2 ⟨Nat.pos_of_ne_zero hb, Nat.le_trans (Nat.min_le_right ..) hm⟩

/-- One receive, in terms of the number `d` of bytes it reads from the connection: `d` is within the
budget and the stream, nothing is read when the frame is already buffered, and the loop either
succeeds in the state `d` determines or stops short of the frame because the budget or the stream is
used up. One unit of fuel per missing byte suffices, a read taking at least one. -/
theorem recvLoop_spec (f fuel : Nat) (s : RS) (N : Nat) (reads : List Nat) (used : Nat) (hfuel : f - s.buf < fuel) :
    ∃ d, d ≤ N ∧ d ≤ s.avail ∧ (d = 0 ∨ s.buf < f) ∧
      (recvLoop f fuel s N reads used = .ok ⟨s.buf + d - f, s.avail - d⟩ (used + d) ∧ f ≤ s.buf + d ∨
       recvLoop f fuel s N reads used = .err (used + d) ∧ s.buf + d < f ∧ (N = d ∨ s.avail = d)) := by
  fun_induction recvLoop f fuel s N reads used with
  -- the four exits of `recvLoop` (no fuel, frame buffered, budget used up, stream cut), then the read
  | case1 => cases hfuel
  | case2 _ _ _ _ _ hf => exact ⟨0, Nat.zero_le _, Nat.zero_le _, .inl rfl, .inl ⟨rfl, hf⟩⟩
  | case3 _ _ _ _ hf => exact ⟨0, Nat.zero_le _, Nat.zero_le _, .inl rfl, .inr ⟨rfl, Nat.lt_of_not_le hf, .inl rfl⟩⟩
  | case4 _ _ _ _ _ hf _ ha => exact ⟨0, Nat.zero_le _, Nat.zero_le _, .inl rfl, .inr ⟨rfl, Nat.lt_of_not_le hf, .inr ha⟩⟩
  | case5 n s N reads used hf hN ha k ih =>
    -- a read of `k` bytes, `1 ≤ k ≤ min N avail`; the oracle's choice plays no part
    have hk1 : 1 ≤ k := Nat.le_max_left ..
    have hkN : k ≤ N := clamp_le hN (Nat.min_le_left ..)
    have hka : k ≤ s.avail := clamp_le ha (Nat.min_le_right ..)
    clear_value k
    have hlt : s.buf < f := Nat.lt_of_not_le hf
    -- the read takes at least one of the `f - s.buf` missing bytes, which pays for its unit of fuel
    have hless : f - (s.buf + k) < f - s.buf := Nat.sub_lt_sub_left hlt (Nat.lt_add_of_pos_right hk1)
    obtain ⟨d, h1, h2, _, h⟩ := ih (Nat.lt_of_lt_of_le hless (Nat.le_of_lt_succ hfuel))
    refine ⟨k + d, Nat.add_le_of_le_sub' hkN h1, Nat.add_le_of_le_sub' hka h2, .inr hlt, ?_⟩
    simp only [Nat.add_assoc, Nat.sub_sub] at h
    exact h.imp_right fun ⟨e, hshort, h'⟩ =>
      ⟨e, hshort, h'.imp (Nat.sub_eq_iff_eq_add' hkN).1 (Nat.sub_eq_iff_eq_add' hka).1⟩

theorem recv_spec (L f : Nat) (s : RS) (reads : List Nat) :
    ∃ d, d ≤ L ∧ d ≤ s.avail ∧ (d = 0 ∨ s.buf < f) ∧
      (recv L f s reads = .ok ⟨s.buf + d - f, s.avail - d⟩ d ∧ f ≤ s.buf + d ∨
       recv L f s reads = .err d ∧ s.buf + d < f ∧ (L = d ∨ s.avail = d)) := by
  simpa only [recv, Nat.zero_add] using
    recvLoop_spec f (f + 1) s L reads 0 (Nat.lt_succ_of_le (Nat.sub_le ..))

/-- **C16 (consumption bounded)**: no single receive operation consumes more than the read limit
from the connection. -/
theorem consumption_bounded (L f : Nat) (s : RS) (reads : List Nat) : (recv L f s reads).consumed ≤ L := by
  obtain ⟨d, h, _, _, ⟨e, _⟩ | ⟨e, _⟩⟩ := recv_spec L f s reads <;> rw [e] <;> exact h

/-- **C16 (within the limit: accepted)**: a frame whose wire form — JSON text plus the one separator
the sending transport writes with it — is at most `L` bytes and which is (or arrives) on the
connection is always accepted, whatever was buffered before it and however the stream is fragmented. -/
theorem within_limit_accepted (L f : Nat) (s : RS) (reads : List Nat)
    (hf : f ≤ L) (hstream : f - s.buf ≤ s.avail) : ∃ s' c, recv L f s reads = .ok s' c := by
  obtain ⟨d, _, _, _, ⟨e, _⟩ | ⟨_, hshort, rfl | rfl⟩⟩ := recv_spec L f s reads
  · exact ⟨_, _, e⟩
  -- the budget, or the stream, used up short of the frame: excluded by `hf`, by `hstream`
  · exact absurd hshort (Nat.not_lt.2 (Nat.le_trans hf (Nat.le_add_left ..)))
  · exact absurd (Nat.lt_sub_iff_add_lt'.2 hshort) (Nat.not_lt.2 hstream)

/-- **C16 (oversize: rejected)**: a frame longer than twice the limit (earlier read-ahead of at most
`L` plus one full budget) is always answered with an error instead of being buffered. -/
theorem oversize_rejected (L f : Nat) (s : RS) (reads : List Nat) (hb : s.buf ≤ L) (hf : 2 * L < f) :
    ∃ c, recv L f s reads = .err c := by
  obtain ⟨d, hd, _, _, ⟨_, hle⟩ | ⟨e, _⟩⟩ := recv_spec L f s reads
  · exact absurd (Nat.le_trans hle (Nat.add_le_add hb hd)) (Nat.not_le.2 (Nat.two_mul L ▸ hf))
  · exact ⟨_, e⟩

/-- **C16 (read-ahead bounded)**: after a successful receive the surplus left in the buffer is at
most `L`, so the hypothesis `s.buf ≤ L` of `oversize_rejected` is an invariant of the connection. -/
theorem readahead_bounded (L f : Nat) (s : RS) (reads : List Nat) (s' : RS) (c : Nat) (hb : s.buf ≤ L)
    (h : recv L f s reads = .ok s' c) : s'.buf ≤ L := by
  obtain ⟨d, hd, _, h0, ⟨e, _⟩ | ⟨e, _⟩⟩ := recv_spec L f s reads
  · obtain ⟨rfl, -⟩ := Res.ok.inj (e.symm.trans h)
    -- nothing was read and the surplus was there before, or the surplus is part of what was read
    rcases h0 with rfl | hlt
    · exact Nat.le_trans (Nat.sub_le ..) hb
    · exact Nat.sub_le_of_le_add (Nat.add_comm s.buf d ▸ Nat.add_le_add hd (Nat.le_of_lt hlt))
  · cases e.symm.trans h

/-- the default limit of the code (regenerated from the source): `DefaultReadLimit` -/
theorem default_limit_tie : LimeModel.Generated.defaultReadLimit = 8192 * 1024 := by decide

/-- Non-vacuity and the measured boundary: with `L = 600`, a 600-byte JSON text whose separator
arrives in a read of its own is a 601-byte frame and is refused; a 599-byte one is accepted. -/
example : recv 600 601 { buf := 0, avail := 601 } [1, 512, 88] = .err 600 := by decide
example : recv 600 600 { buf := 0, avail := 600 } [512, 88] = .ok { buf := 0, avail := 0 } 600 := by decide

end Props.C16
