import LimeModel.Finish
import LimeModel.Lemmas.Run
/-!
# C13 — sessions end cleanly and release what waits on them

The client that finishes a session, against its own receiver goroutine (`LimeModel.Finish`), under
every interleaving:
* `finish_never_fails` — `FinishSession` never gives up on a reply that was delivered: the caller
  does not end in the error state, whichever of the receiver's "push the reply" / "adopt its state"
  steps and the caller's "read the state" / "wait" steps comes first;
* `streams_closed_once` — the inbound streams and the done signal are closed at most once, ever,
  and exactly once when everything has come to rest;
* `finish_completes` — when nothing can move any more the caller has closed the transport, the
  state is `finished`, the receiver has exited: `initiator_closes_transport`,
  `terminal_state_reached`, `no_goroutine_left` for this scenario;
* `unfixed_gives_up` — the tree before the repair: the receiver adopts `finished` first, the caller
  reads it and returns an error with the transport open.
The observer's side (receiver stopped by a terminal state, streams silent afterwards) is
`Props.C06.after_terminal_silent` over `LimeModel.Life`.
-/
namespace Props.C13
open LimeModel.Finish

/-- the reply is not yet asked for (`early`), or in exactly one place (`pending`), or consumed by the caller -/
structure Inv (s : FS) : Prop where
  early : (s.cpc = .idle) → (s.wire = false ∧ s.inSes = false ∧ s.rpc = .running ∧ s.finished = false ∧ s.closes = 0 ∧ s.cancelReq = false ∧ s.inSesClosed = false)
  pending : (s.cpc = .sent ∨ s.cpc = .readEst ∨ s.cpc = .readTerm) →
    ((s.rpc = .running ∧ s.wire = true ∧ s.inSes = false ∧ s.finished = false ∧ s.inSesClosed = false) ∨
     (s.rpc = .pushed ∧ s.wire = false ∧ s.inSes = true ∧ s.finished = false ∧ s.inSesClosed = false) ∨
     (s.rpc = .exited ∧ s.wire = false ∧ s.inSes = true ∧ s.finished = true ∧ s.inSesClosed = true)) ∧ s.cancelReq = false
  term : s.cpc = .readTerm → s.finished = true
  closesLe : s.closes = (if s.rpc = .exited then 1 else 0)
  notFailed : s.cpc ≠ .failed
  late : (s.cpc = .stopped ∨ s.cpc = .closed) → s.rpc = .exited ∧ s.finished = true
  adoptedFin : (s.cpc = .adopted) → s.finished = true ∧ s.inSes = false ∧ (s.rpc = .pushed ∨ s.rpc = .exited ∨ (s.rpc = .running ∧ s.wire = false))
  gotSt : (s.cpc = .got) → s.inSes = false ∧ s.wire = false ∧ (s.rpc = .pushed ∨ s.rpc = .exited) ∧ s.cancelReq = false
  closedT : s.tclosed = true → s.cpc = .closed
  cancelOnly : s.cancelReq = true → (s.cpc = .adopted ∨ s.cpc = .stopped ∨ s.cpc = .closed)
  closedImp : s.cpc = .closed → s.tclosed = true

/-- The eighteen states the repaired client can be in, in the order a breadth-first search from `{}` finds them.
The list contains `{}` and is closed under `step true` (`reach_step`, by evaluation), so every run stays in it
(`reach_run`); that each of them is in fact reached plays no part. `Inv` says what holds of each (`inv_reach`). -/
def reach : List FS := [
  { },
  { cpc := .sent, wire := true },
  { cpc := .readEst, wire := true },
  { rpc := .pushed, cpc := .sent, inSes := true },
  { rpc := .pushed, cpc := .readEst, inSes := true },
  { rpc := .exited, cpc := .sent, finished := true, inSes := true, inSesClosed := true, closes := 1 },
  { rpc := .pushed, cpc := .got },
  { rpc := .exited, cpc := .readEst, finished := true, inSes := true, inSesClosed := true, closes := 1 },
  { rpc := .exited, cpc := .readTerm, finished := true, inSes := true, inSesClosed := true, closes := 1 },
  { rpc := .pushed, cpc := .adopted, finished := true },
  { rpc := .exited, cpc := .got, finished := true, inSesClosed := true, closes := 1 },
  { rpc := .pushed, cpc := .adopted, finished := true, cancelReq := true },
  { rpc := .exited, cpc := .adopted, finished := true, inSesClosed := true, closes := 1 },
  { rpc := .exited, cpc := .adopted, finished := true, inSesClosed := true, cancelReq := true, closes := 1 },
  { rpc := .exited, cpc := .stopped, finished := true, inSesClosed := true, closes := 1 },
  { rpc := .exited, cpc := .stopped, finished := true, inSesClosed := true, cancelReq := true, closes := 1 },
  { rpc := .exited, cpc := .closed, finished := true, inSesClosed := true, tclosed := true, closes := 1 },
  { rpc := .exited, cpc := .closed, finished := true, inSesClosed := true, cancelReq := true, tclosed := true, closes := 1 }]

theorem mem_allLabels (l : Lbl) : l ∈ allLabels := by cases l <;> decide

theorem reach_step : ∀ s ∈ reach, ∀ l ∈ allLabels, ∀ s', step true s l = some s' → s' ∈ reach := by decide +kernel

theorem reach_run (ls : List Lbl) (s : FS) (hr : runL true {} ls = some s) : s ∈ reach :=
  LimeModel.run_preserves (fun _ => rfl) (fun s l ls => by simp only [runL]; cases step true s l <;> rfl)
    (fun s0 s1 l h0 hs => reach_step s0 h0 l (mem_allLabels l) s1 hs) ls {} s (by decide) hr

theorem inv_reach : ∀ s ∈ reach, Inv s := by
  intro s hs
  constructor <;> revert s <;> decide +kernel

/-- **C13 (the finishing client never gives up on a delivered reply)**. The reason, which the table only
confirms: while the caller is short of the reply (`Inv.pending`), nothing but the receiver's exit makes the channel
`finished` or closes the session stream, and the receiver exits after it has pushed the reply, which the caller
alone takes out; so a caller that sees either finds the reply in the stream. -/
theorem finish_never_fails (ls : List Lbl) (s : FS) (hr : runL true {} ls = some s) : s.cpc ≠ .failed :=
  (inv_reach s (reach_run ls s hr)).notFailed

/-- **C13 (streams closed once)**: never twice, and only by the receiver's exit. -/
theorem streams_closed_once (ls : List Lbl) (s : FS) (hr : runL true {} ls = some s) :
    s.closes ≤ 1 ∧ (s.closes = 1 ↔ s.rpc = .exited) := by
  have h := (inv_reach s (reach_run ls s hr)).closesLe
  by_cases e : s.rpc = .exited <;> simp [h, e]

/-- **C13 (completion)**: once the client has asked for the end, a state in which nothing can move
is the state in which the caller has closed its transport, the channel is `finished`, and the
receiver goroutine is gone with the streams closed exactly once. -/
theorem finish_completes (ls : List Lbl) (s : FS) (hr : runL true {} ls = some s)
    (hstarted : s.cpc ≠ .idle) (hst : stuck true s = true) :
    s.cpc = .closed ∧ s.tclosed = true ∧ s.finished = true ∧ s.rpc = .exited ∧ s.closes = 1 :=
  (by decide +kernel : ∀ s ∈ reach, s.cpc ≠ .idle → stuck true s = true →
    s.cpc = .closed ∧ s.tclosed = true ∧ s.finished = true ∧ s.rpc = .exited ∧ s.closes = 1) s (reach_run ls s hr) hstarted hst

/-- the tree before the repair gave up: the caller ends in the error state, transport open -/
theorem unfixed_gives_up :
    (runL false {} [.callerSend, .rcvTake, .rcvAdopt, .callerRead, .callerTerminal]).map
      (fun s => (s.cpc, s.tclosed, s.inSes)) = some (.failed, false, true) := by decide

/-- the same schedule on the repaired code goes through -/
example : (runL true {} [.callerSend, .rcvTake, .rcvAdopt, .callerRead, .callerTerminal, .callerAdopt, .callerStop,
    .callerClose]).map (fun s => (s.cpc, s.tclosed, s.finished, s.closes)) = some (.closed, true, true, 1) := by decide

end Props.C13
