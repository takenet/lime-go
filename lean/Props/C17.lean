import LimeModel.Sessions
/-!
# C17 — concurrent sessions are isolated and handlers see their own session

For any number of connections, any interleaving of their traffic, any handler table and any nodes
assigned by the registration callback (equal ones included):
* `handler_sees_own_session` — every handler invocation for an envelope that arrived on connection
  `i` carries the id, local node and remote node of connection `i`'s session and has connection `i`
  as its sender;
* `announced_is_own` — every announced id is the id of the session it was announced on;
* `ids_distinct` — given an id supply without repetitions (the UUID generator, trusted), the ids of
  all sessions are pairwise distinct;
* non-interference in unwinding form: `other_steps_invisible` (a step of another connection does
  not change what connection `i` sees) and `own_step_local` (what a step of connection `i` adds
  depends only on connection `i`'s session, the envelope and the shared handler table).
-/
namespace Props.C17
open LimeModel.Mux (Kind Table Handler)
open LimeModel.Sessions

/-- every event is consistent with the session of the connection it belongs to -/
def EvOk (sessions : List Sess) : Ev → Prop
  | .announced i id r => ∃ ss, sessions[i]? = some ss ∧ ss.id = id ∧ ss.rem = r
  | .invoked i _ _ a b c snd _ => ∃ ss, sessions[i]? = some ss ∧ a = ss.id ∧ b = ss.loc ∧ c = ss.rem ∧ snd = i

theorem getElem?_append_some {α} {l : List α} {i : Nat} {a : α} (h : l[i]? = some a) (m : List α) :
    (l ++ m)[i]? = some a := by
  obtain ⟨hi, _⟩ := List.getElem?_eq_some_iff.1 h
  rw [List.getElem?_append_left hi, h]

theorem evOk_append (l : List Sess) (x : Sess) (e : Ev) (h : EvOk l e) : EvOk (l ++ [x]) e := by
  cases e <;> exact h.imp fun ss hs => ⟨getElem?_append_some hs.1 _, hs.2⟩

structure Inv (node : Nat) (s : St) : Prop where
  evs : ∀ ev ∈ s.trace, EvOk s.sessions ev
  loc : ∀ ss ∈ s.sessions, ss.loc = node
  nodeEq : s.node = node
  ids : (s.sessions.map (·.id) ++ s.supply).Nodup

theorem step_inv (t : Table Nat) (node : Nat) (s : St) (o : Op) (h : Inv node s) : Inv node (step t s o) := by
  fun_cases step t s o with
  -- no id left in the supply, no such connection, no matching handler: nothing changes
  | case1 | case3 | case4 => exact h
  | case2 reg id rest hs =>
    refine { h with evs := fun ev hev => ?_, loc := fun ss hss => ?_, ids := ?_ }
    · rcases List.mem_cons.1 hev with rfl | hev
      · exact ⟨⟨id, s.node, reg⟩, by simp, rfl, rfl⟩
      · exact evOk_append _ _ _ (h.evs ev hev)
    · rcases List.mem_append.1 hss with hss | hss
      · exact h.loc ss hss
      · rw [List.mem_singleton.1 hss]; exact h.nodeEq
    · simpa [hs, List.map_append, List.append_assoc] using h.ids
  | case5 i k e ss hi hd =>
    refine { h with evs := fun ev hev => ?_ }
    rcases List.mem_cons.1 hev with rfl | hev
    · exact ⟨ss, hi, rfl, rfl, rfl, rfl⟩
    · exact h.evs ev hev

theorem run_inv (t : Table Nat) (node : Nat) (supply : List Nat) (hn : supply.Nodup) (ops : List Op) :
    Inv node (run t node supply ops) :=
  List.foldlRecOn ops (step t) { evs := nofun, loc := nofun, nodeEq := rfl, ids := by simpa using hn }
    fun s h o _ => step_inv t node s o h

/-- **C17 (own session)** -/
theorem handler_sees_own_session (t : Table Nat) (node : Nat) (supply : List Nat) (hn : supply.Nodup)
    (ops : List Op) (i : Nat) (k : Kind) (h a b c snd e : Nat)
    (hev : Ev.invoked i k h a b c snd e ∈ (run t node supply ops).trace) :
    ∃ ss, (run t node supply ops).sessions[i]? = some ss ∧ a = ss.id ∧ b = node ∧ c = ss.rem ∧ snd = i := by
  have hI := run_inv t node supply hn ops
  obtain ⟨ss, hs, ha, hb, hc, hsnd⟩ := hI.evs _ hev
  exact ⟨ss, hs, ha, hb.trans (hI.loc ss (List.mem_of_getElem? hs)), hc, hsnd⟩

/-- **C17 (announced id)**: the id announced on a connection is the id of that connection's session. -/
theorem announced_is_own (t : Table Nat) (node : Nat) (supply : List Nat) (hn : supply.Nodup)
    (ops : List Op) (i id r : Nat) (hev : Ev.announced i id r ∈ (run t node supply ops).trace) :
    ∃ ss, (run t node supply ops).sessions[i]? = some ss ∧ ss.id = id ∧ ss.rem = r :=
  (run_inv t node supply hn ops).evs _ hev

/-- **C17 (distinct ids)** -/
theorem ids_distinct (t : Table Nat) (node : Nat) (supply : List Nat) (hn : supply.Nodup) (ops : List Op) :
    ((run t node supply ops).sessions.map (·.id)).Nodup :=
  (List.nodup_append.mp (run_inv t node supply hn ops).ids).1

/-- an operation concerns connection `i`: a `recv` on `i`, or the `accept` that creates `i`, the index of the
session it appends being `sessions.length` -/
def concerns (i : Nat) (s : St) : Op → Prop
  | .accept _ => s.sessions.length = i
  | .recv j _ _ => j = i

/-- **C17 (non-interference, step consistency)**: steps of other connections are invisible. -/
theorem other_steps_invisible (t : Table Nat) (s : St) (o : Op) (i : Nat) (h : ¬ concerns i s o) :
    proj i (step t s o).trace = proj i s.trace := by
  fun_cases step t s o with
  | case1 | case3 | case4 => rfl
  | case2 | case5 => exact if_neg h

/-- **C17 (non-interference, output consistency)**: what a step of connection `i` adds depends only
on connection `i`'s session, the envelope and the handler table. -/
theorem own_step_local (t : Table Nat) (s1 s2 : St) (i : Nat) (k : Kind) (e : Nat)
    (h : s1.sessions[i]? = s2.sessions[i]?) :
    ∃ evs, (step t s1 (.recv i k e)).trace = evs ++ s1.trace ∧ (step t s2 (.recv i k e)).trace = evs ++ s2.trace := by
  simp only [step, ← h]
  split
  · exact ⟨[], rfl, rfl⟩
  · split
    · exact ⟨[], rfl, rfl⟩
    · exact ⟨[_], rfl, rfl⟩

/-- Non-vacuity: two connections whose registration returned the same node. -/
example :
    let t : Table Nat := { msg := [⟨none, fun _ => false⟩], ntf := [], req := [], resp := [] }
    (run t 9 [41, 42, 43] [.accept 5, .accept 5, .recv 1 .msg 7, .recv 0 .msg 8]).trace =
      [.invoked 0 .msg 0 41 9 5 0 8, .invoked 1 .msg 0 42 9 5 1 7, .announced 1 42 5, .announced 0 41 5] := by
  decide

end Props.C17
