import LimeModel.Lemmas.Text
/-!
# C01 (text forms): the textual forms of identities, node addresses and media types parse back
to the value that produced them — for every value in the address grammar. Six counter-examples show
hypotheses of the grammar that cannot be dropped: a separator inside a name, an instance or a subtype,
and an empty media type, do not come back.
-/
namespace Props.C01
open LimeModel

/-- **C01**: an identity in the address grammar (name and domain free of `@`) parses back from its text form. -/
theorem identity_print_parse (i : Identity) (h : i.wf = true) :
    parseIdentity (printIdentity i) = i := parse_print_identity i h

/-- **C01**: a node address in the grammar (name, domain free of `@` `/`; instance free of `/`)
parses back from its text form. -/
theorem node_print_parse (n : Node) (h : n.wf = true) : parseNode (printNode n) = n :=
  parse_print_node n h

/-- **C01**: a media type in the grammar parses back from its text form. -/
theorem mediatype_print_parse (m : MT) (h : m.wf = true) : parseMT (printMT m) = some m :=
  parse_print_mt m h

/-! Necessity of the grammar hypotheses (each reserved separator really is lossy). -/

example : parseIdentity (printIdentity ⟨['a', '@', 'b'], ['c']⟩) ≠ ⟨['a', '@', 'b'], ['c']⟩ := by decide
example : parseNode (printNode ⟨['a', '/', 'b'], ['c'], []⟩) ≠ ⟨['a', '/', 'b'], ['c'], []⟩ := by decide
example : parseNode (printNode ⟨['a'], ['c'], ['x', '/', 'y']⟩) ≠ ⟨['a'], ['c'], ['x', '/', 'y']⟩ := by decide
example : parseMT (printMT ⟨['a'], ['b', '+', 'c'], []⟩) ≠ some ⟨['a'], ['b', '+', 'c'], []⟩ := by decide
example : parseMT (printMT ⟨[], [], []⟩) = none := by decide
example : parseMT (printMT ⟨[], ['x'], []⟩) = none := by decide

/-! Non-vacuity: values with every part present satisfy the hypotheses. -/
example : (⟨['a', 'l'], ['x', '.', 'y'], ['h', '@', '1']⟩ : Node).wf = true := by decide
example : (⟨"application".toList, "vnd.lime.container".toList, "json".toList⟩ : MT).wf = true := by decide +kernel

end Props.C01
