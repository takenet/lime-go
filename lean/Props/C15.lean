import LimeModel.Timed
import LimeModel.Generated
/-!
# C15 — blocking operations honour their context

The retry loop of the TCP transport (`pollLoop`), for every poll interval `poll ≥ 1`, every starting
time, every peer behaviour (silent for ever, or ready at any moment) and enough iterations:
`ctx_end_returns` is the loop under a context that ends, `deadline_prompt` and `cancel_within_poll`
are its instances, `data_wins` is the other outcome. `select_prompt` is for the `select`-based
operations, `helper_prompt` for the WebSocket helper pattern once the forced deadline reaches the
operation in progress; `helper_unfixed_blocks` is the tree before the repair. `tcp_poll_tie` ties the
poll intervals to the constants regenerated from the source (five seconds), and `tcp_cancel_bound`
instantiates the bound with them.
-/
namespace Props.C15
open LimeModel.Timed

theorem done_iff (c : Ctx) (t : Nat) : c.done t = true ↔ ∃ e, c.endTime = some e ∧ e ≤ t := by
  unfold Ctx.done Ctx.endTime
  cases c.deadline <;> cases c.cancelAt <;> simp [Std.min_le]

theorem ioDeadline_bounds (poll : Nat) (hp : 0 < poll) (c : Ctx) (now : Nat) (h : c.done now = false) :
    now < ioDeadline poll c now ∧ ioDeadline poll c now ≤ now + poll ∧
      ∀ d, c.deadline = some d → ioDeadline poll c now ≤ d := by
  unfold ioDeadline
  cases hd : c.deadline with
  | none => exact ⟨Nat.lt_add_of_pos_right hp, Nat.le_refl _, nofun⟩
  | some d =>
    -- the context is live, so its deadline is still ahead
    have hlt : now < d := by
      unfold Ctx.done at h
      rw [hd, Bool.or_eq_false_iff, decide_eq_false_iff_not] at h
      exact Nat.lt_of_not_le h.1
    exact ⟨Nat.lt_min.2 ⟨Nat.lt_add_of_pos_right hp, hlt⟩, Nat.min_le_left ..,
      fun _ e => Option.some.inj e ▸ Nat.min_le_right ..⟩

/-- every iteration moves the clock, so one unit of fuel per iteration suffices -/
theorem fuel_step {x now d n : Nat} (h : x ≤ now + (n + 1)) (hd : now < d) : x ≤ d + n := by omega

/-- The retry loop under a context that ends at `e`, with a peer that is not ready before the I/O
deadlines the loop sets: it returns the context's error, not before `e`; at once if the context is
over already, else at most one poll interval after `e` and not after the context's deadline. -/
theorem ctx_end_returns (poll : Nat) (hp : 0 < poll) (c : Ctx) (e : Nat) (he : c.endTime = some e)
    (readyAt : Option Nat)
    (hr : ∀ r now, readyAt = some r → c.done now = false → ioDeadline poll c now ≤ r) :
    ∀ (fuel now : Nat), e + 1 ≤ now + fuel →
      ∃ t, pollLoop poll c readyAt fuel now = (t, .ctxErr) ∧ now ≤ t ∧ e ≤ t ∧
        (t = now ∨ t ≤ e + poll ∧ ∀ d, c.deadline = some d → t ≤ d) := by
  intro fuel
  induction fuel with
  | zero => intro now h; exact ⟨now, rfl, Nat.le_refl _, Nat.le_of_succ_le h, .inl rfl⟩
  | succ n ih =>
    intro now h
    simp only [pollLoop]
    cases hd : c.done now with
    | true =>
      obtain ⟨e', he', hle⟩ := (done_iff c now).1 hd
      obtain rfl : e' = e := Option.some.inj (he' ▸ he)
      exact ⟨now, if_pos rfl, Nat.le_refl _, hle, .inl rfl⟩
    | false =>
      have hlive : now < e := Nat.lt_of_not_le fun hle =>
        Bool.eq_false_iff.1 hd ((done_iff c now).2 ⟨e, he, hle⟩)
      obtain ⟨h1, h2, h3⟩ := ioDeadline_bounds poll hp c now hd
      obtain ⟨t, ht, b1, b2, b3⟩ := ih (ioDeadline poll c now) (fuel_step h h1)
      refine ⟨t, ?_, Nat.le_trans (Nat.le_of_lt h1) b1, b2, .inr ?_⟩
      · cases hra : readyAt with
        | none => simpa [hra] using ht
        | some r => simpa [hra, Nat.not_lt.2 (hr r now hra hd)] using ht
      · rcases b3 with rfl | b3
        · exact ⟨Nat.le_trans h2 (Nat.add_le_add_right (Nat.le_of_lt hlive) _), h3⟩
        · exact b3

/-- **C15 (deadline)**: peer silent (or ready only at or after the deadline), no cancellation: the
loop returns the context's error at `max now d`. -/
theorem deadline_prompt (poll : Nat) (hp : 0 < poll) (d : Nat) (readyAt : Option Nat)
    (hr : ∀ r, readyAt = some r → d ≤ r) :
    ∀ (fuel now : Nat), d + 1 ≤ now + fuel →
      pollLoop poll { deadline := some d } readyAt fuel now = (max now d, .ctxErr) := by
  intro fuel now h
  obtain ⟨t, ht, b1, b2, b3⟩ := ctx_end_returns poll hp { deadline := some d } d rfl readyAt
    (fun r now' hra hd => Nat.le_trans ((ioDeadline_bounds poll hp _ now' hd).2.2 d rfl) (hr r hra)) fuel now h
  -- `t` is at least `now` and `d`, and it is `now` or at most `d`
  have : t = max now d := by
    rcases b3 with e | b
    · omega
    · have := b.2 d rfl; omega
  rw [ht, this]

/-- **C15 (cancellation)**: no deadline, cancelled at `a`, the peer never ready: the
loop returns the context's error at a time in `[max now a, a + poll]`. -/
theorem cancel_within_poll (poll : Nat) (hp : 0 < poll) (a : Nat) :
    ∀ (fuel now : Nat), now ≤ a → a + 2 ≤ now + fuel →
      (pollLoop poll { cancelAt := some a } none fuel now).2 = .ctxErr ∧
      a ≤ (pollLoop poll { cancelAt := some a } none fuel now).1 ∧
      (pollLoop poll { cancelAt := some a } none fuel now).1 ≤ a + poll := by
  intro fuel now h1 h2
  obtain ⟨t, ht, _, b2, b3⟩ := ctx_end_returns poll hp { cancelAt := some a } a rfl none
    (fun _ _ h => nomatch h) fuel now (Nat.le_of_succ_le h2)
  rw [ht]
  exact ⟨rfl, b2, b3.elim (fun h => h ▸ Nat.le_trans h1 (Nat.le_add_right ..)) (·.1)⟩

/-- **C15 (no false alarm)**: a peer that is ready before the context ends is served at that moment. -/
theorem data_wins (poll : Nat) (hp : 0 < poll) (c : Ctx) (r : Nat) :
    ∀ (fuel now : Nat), c.done (max now r) = false → max now r + 1 ≤ now + fuel →
      pollLoop poll c (some r) fuel now = (max now r, .ok) := by
  intro fuel
  induction fuel with
  | zero =>
    intro now _ h2
    omega
  | succ n ih =>
    intro now h1 h2
    have hnow : c.done now = false := Bool.eq_false_iff.2 fun hh =>
      have ⟨e, he, hle⟩ := (done_iff c now).1 hh
      Bool.eq_false_iff.1 h1 ((done_iff c _).2 ⟨e, he, Nat.le_trans hle (Nat.le_max_left ..)⟩)
    obtain ⟨hd, _, _⟩ := ioDeadline_bounds poll hp c now hnow
    simp only [pollLoop, hnow, Bool.false_eq_true, ↓reduceIte]
    by_cases hlt : r < ioDeadline poll c now
    · rw [if_pos hlt]
    · -- the wait timed out before the peer was ready: `now < ioDeadline ≤ r`, so both maxima are `r`
      have hle := Nat.le_of_not_lt hlt
      have e1 : max now r = r := Nat.max_eq_right (Nat.le_trans (Nat.le_of_lt hd) hle)
      have e2 : max (ioDeadline poll c now) r = r := Nat.max_eq_right hle
      rw [e1] at h1 h2 ⊢
      rw [if_neg hlt, ih (ioDeadline poll c now) (e2.symm ▸ h1) (e2.symm ▸ fuel_step h2 hd), e2]

/-- **C15 (`select`-based operations)**: with a peer that is never ready they return exactly when the
context ends. -/
theorem select_prompt (c : Ctx) (e : Nat) (now : Nat) (he : c.endTime = some e) :
    selectOp c none now = some (max now e, .ctxErr) := by
  simp [selectOp, he]

/-- **C15 (WebSocket)**: with the forced deadline reaching the operation in progress, the helper
pattern returns when the context ends, whether a peer that is not ready before then is slow or
silent for ever. -/
theorem helper_prompt (c : Ctx) (e : Nat) (now : Nat) (readyAt : Option Nat) (he : c.endTime = some e)
    (hr : ∀ r, readyAt = some r → max now e ≤ max now r) :
    helperOp true c readyAt now = some (max now e, .ctxErr) := by
  unfold helperOp selectOp
  cases hra : readyAt with
  | none => simp [he]
  | some r => simp [he, Nat.not_lt.2 (hr r hra)]

/-- the tree before the repair: a peer that never reads blocks the sender for ever, and a slow one
holds it long past the end of its context -/
theorem helper_unfixed_blocks :
    helperOp false { deadline := some 10 } none 0 = none ∧
    helperOp false { deadline := some 10 } (some 5000) 0 = some (5000, .ctxErr) := by decide

/-- the TCP transport's poll intervals, regenerated from the source; `tcp_cancel_bound` is the resulting bound -/
theorem tcp_poll_tie : LimeModel.Generated.readPollSeconds = 5 ∧ LimeModel.Generated.writePollSeconds = 5 := by decide

theorem tcp_cancel_bound (a now fuel : Nat) (h1 : now ≤ a) (h2 : a + 2 ≤ now + fuel) :
    (pollLoop LimeModel.Generated.readPollSeconds { cancelAt := some a } none fuel now).1 ≤ a + 5 :=
  (cancel_within_poll LimeModel.Generated.readPollSeconds (by decide) a fuel now h1 h2).2.2

/-- Non-vacuity: poll 5, cancelled at 7 from 0: the loop wakes at 5 and at 10 and returns at 10. -/
example : pollLoop 5 { cancelAt := some 7 } none 10 0 = (10, .ctxErr) := by decide
example : pollLoop 5 { deadline := some 7 } none 10 0 = (7, .ctxErr) := by decide
example : pollLoop 5 { deadline := some 7 } (some 6) 10 0 = (6, .ok) := by decide

end Props.C15
