import Props.C16
/-!
# C16 across the receives of one connection: "no matter how much data preceded it"

`Props/C16.lean` proves the statement for one `Receive` that starts with the full budget. Here the
budget is a field of the connection that is renewed according to a policy, and the statement is about
whole streams in which documents may be taken off the stream and refused.
-/
namespace Props.C16
open LimeModel.ReadLimit

/-- the invariant of a healthy connection under the repaired policy -/
def Healthy (L : Nat) (c : Conn) (docs : List (Nat × DocKind × List Nat)) : Prop :=
  c.N = L ∧ (docs.map (·.1)).sum ≤ c.rs.buf + c.rs.avail

/-- **C16 (any position, any predecessors)**: under the policy that renews the budget for every value
taken off the stream, on a connection that carries the whole stream, every document within the limit
— envelope or refused — is taken off the stream, whatever the reads do. In particular an envelope
within the limit is accepted after any amount of data, accepted or refused. -/
theorem stream_all_taken (L : Nat) : ∀ (docs : List (Nat × DocKind × List Nat)) (c : Conn),
    Healthy L c docs → (∀ d ∈ docs, d.1 ≤ L) → ∀ b ∈ runC .onValue L c docs, b = true := by
  intro docs
  induction docs with
  | nil => intro c _ _ b hb; cases hb
  | cons d rest ih =>
    intro c hc hl b hb
    obtain ⟨f, k, reads⟩ := d
    obtain ⟨hN, hsum⟩ := hc
    have hf : f ≤ L := hl (f, k, reads) (List.mem_cons_self ..)
    simp only [List.map_cons, List.sum_cons] at hsum
    -- one `Receive` on the connection is `recv` with the budget that is left, here all of it
    obtain ⟨d, _, hd, _, ⟨hok, hle⟩ | ⟨_, hshort, rfl | rfl⟩⟩ := recv_spec c.N f c.rs reads
    · simp only [runC, recvC, show recvLoop f (f + 1) c.rs c.N reads 0 = _ from hok, Policy.renews, if_true] at hb
      cases hb with
      | head => rfl
      | tail _ hb' =>
        refine ih ⟨_, L⟩ ⟨rfl, ?_⟩ (fun x hx => hl x (List.mem_cons_of_mem _ hx)) b hb'
        -- what is left of the stream, from `f ≤ buf + d`, `d ≤ avail` and `f + rest ≤ buf + avail`
        simp only
        omega
    -- the budget, or the stream, used up short of the frame: but `f ≤ L`, and the stream carries `f`
    · exact absurd hshort (Nat.not_lt.2 (Nat.le_trans (hN ▸ hf) (Nat.le_add_left ..)))
    · exact absurd hshort (Nat.not_lt.2 (Nat.le_trans (Nat.le_add_right ..) hsum))

/-- the code as it was before the repair: two refused documents of 40 bytes use up a 64-byte budget
and the 10-byte envelope behind them is refused -/
theorem unrepaired_refuses_small_envelope :
    runC .onDecodeOk 64 { rs := { buf := 0, avail := 90 }, N := 64 }
      [(40, .refusedByDecode, [40]), (40, .refusedByDecode, [40]), (10, .envelope, [10])] = [true, false, false] := by
  decide

/-- the same stream under the repaired policy -/
example : runC .onValue 64 { rs := { buf := 0, avail := 90 }, N := 64 }
      [(40, .refusedByDecode, [40]), (40, .refusedByDecode, [40]), (10, .envelope, [10])] = [true, true, true] := by
  decide

/-- and a policy that renews only for envelopes fails on documents refused after decoding as well -/
example : runC .onEnvelope 64 { rs := { buf := 0, avail := 90 }, N := 64 }
      [(40, .refusedByConvert, [40]), (40, .refusedByConvert, [40]), (10, .envelope, [10])] = [true, false, false] := by
  decide

/-- the policy read from the source on this run is the repaired one -/
theorem policy_tie : policy = .onValue := by decide

/-- the statement for the policy the source has -/
theorem stream_all_taken_code (L : Nat) (docs : List (Nat × DocKind × List Nat)) (c : Conn)
    (hc : Healthy L c docs) (hl : ∀ d ∈ docs, d.1 ≤ L) : ∀ b ∈ runC policy L c docs, b = true := by
  rw [policy_tie]; exact stream_all_taken L docs c hc hl

end Props.C16
