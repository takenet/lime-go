import Props.C08
/-!
# C08 (the client's state never moves backwards)

In every run of the client handshake — whatever the server sends, regressions included — the sequence
of values given to `setState` is non-decreasing in the `SessionState.Step` order and the channel's
state is at least every value ever set: the guard of `setStateWLock` (a panic before the repair)
refuses every regressing value, and a client that has seen `established` / `finished` / `failed`
never shows an earlier state again.
-/
namespace Props.C08
open LimeModel LimeModel.ClientHs LimeModel.ClientSpec
open LimeModel.ServerHs (SState Ses Recv Opt)

/-- newest-first trace: every `setState` is at least every earlier one -/
def cliMonoRev : List Ev → Bool
  | [] => true
  | .setState x :: rest =>
    rest.all (fun e => match e with | .setState y => decide (y.step ≤ x.step) | _ => true) && cliMonoRev rest
  | _ :: rest => cliMonoRev rest

def Mono (s : St) : Prop :=
  cliMonoRev s.trace = true ∧ ∀ y, Ev.setState y ∈ s.trace → y.step ≤ s.state.step

theorem Mono.log {s : St} (e : Ev) (he : ∀ y, e ≠ .setState y) (h : Mono s) : Mono (s.log e) := by
  refine ⟨?_, fun y hy => ?_⟩
  · cases e <;> first | exact h.1 | exact absurd rfl (he _)
  · rcases List.mem_cons.mp hy with rfl | hy
    · exact absurd rfl (he y)
    · exact h.2 y hy

/-- the guard of `setStateWLock` is what keeps the order -/
theorem Mono.setState {s : St} (x : SState) (hx : s.state.step ≤ x.step) (h : Mono s) : Mono (setState s x) := by
  refine ⟨?_, fun y hy => ?_⟩
  · simp only [ClientHs.setState, St.log, cliMonoRev, Bool.and_eq_true, List.all_eq_true]
    refine ⟨fun e he => ?_, h.1⟩
    cases e with
    | setState y => exact decide_eq_true (Nat.le_trans (h.2 y he) hx)
    | _ => rfl
  · rcases List.mem_cons.mp hy with hy | hy
    · cases hy; exact Nat.le_refl _
    · exact Nat.le_trans (h.2 y hy) hx

theorem mono_keeps (c : Cfg) : Keeps c (fun _ => Mono) Mono where
  weak h := h
  frame h hs := by unfold Mono; rw [hs.trace, hs.state]; exact h
  wframe h hs := by unfold Mono; rw [hs.trace, hs.state]; exact h
  quiet e he := Mono.log e (by rintro _ rfl; cases he)
  emit _ := Mono.log _ (by rintro _ ⟨⟩)
  recvSes _ := Mono.log _ (by rintro _ ⟨⟩)
  recvEst _ _ _ := Mono.log _ (by rintro _ ⟨⟩)
  recvBad _ _ := Mono.log _ (by rintro _ ⟨⟩)
  setState := Mono.setState
  confirmed x h :=
    have := confirmed_of_silent (fun e he => Mono.log e (by rintro _ rfl; cases he)) (fun _ h => h) x h
    ⟨this, fun _ => this⟩

/-- **C08 (no regression)**: in every run the values given to `setState` never decrease, and the
state the channel ends in is at least every state it was ever given. -/
theorem client_state_monotone (c : Cfg) (recvs : List Recv) (auths : List Auth) (sendOk : List Bool)
    (setEncOk : Bool) (enc0 : Opt) :
    let r := run c recvs auths sendOk setEncOk enc0
    cliMonoRev r.trace.reverse = true ∧ ∀ y, Ev.setState y ∈ r.trace → y.step ≤ r.final.state.step := by
  intro r
  have h : Mono r.final := (run_post (mono_keeps c) recvs auths sendOk setEncOk enc0 ⟨rfl, nofun⟩).weaken
    fun _ _ h => h.1
  have ht : r.trace.reverse = r.final.trace := run_trace ..
  exact ⟨ht ▸ h.1, fun y hy => h.2 y (ht ▸ List.mem_reverse.mpr hy)⟩

/-- non-vacuity: a regressing server (authenticating, then negotiating) is refused and the state stays -/
example : (run demoCfg [.ses { id := cs!"S", state := .authenticating, schemeOpts := [cs!"guest"] },
    .ses { id := cs!"S", state := .negotiating }] [.guest] [] true).final.state = .authenticating := by decide

end Props.C08
