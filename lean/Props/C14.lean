import LimeModel.ServerHs
/-!
# C14 — every connection that fails to establish is released

`handleChannel` = the handshake followed by the serving layer's decision. For every configuration,
client script, callback outcome sequence, send failure pattern and `SetEncryption` outcome: unless
the handshake ended with an established session on a connected transport, the local end of the
connection has been closed when `handleChannel` returns, and neither callback was invoked.
-/
namespace Props.C14
open LimeModel LimeModel.ServerHs

theorem channelClose_held (s : St) : (channelClose s).held = false := by
  unfold channelClose; split
  · rfl
  · rename_i h; simpa using h

/-- **C14 (released, no callbacks)** -/
theorem failed_handshake_released (c : Cfg) (s : St) :
    let r := establish c s
    let h := handleChannel c s
    ¬(r.1 = true ∧ r.2.state = .established ∧ r.2.connected = true) →
      h.2.held = false ∧ h.1 = [] := by
  intro r h hne
  show (handleChannel c s).2.held = false ∧ (handleChannel c s).1 = []
  fun_cases handleChannel c s
  case case1 | case2 => exact ⟨channelClose_held _, rfl⟩
  case case3 h1 h2 => exact absurd ⟨by simpa using h1, by simpa using h2⟩ hne

/-- **C14 (callbacks only for established sessions)**: the `Established` and `Finished` callbacks
run only when the handshake ended established on a connected transport. (That the observable trace of a
fresh channel then ends with the `established` envelope is C07's `success_is_terminal`.) -/
theorem callbacks_only_when_established (c : Cfg) (s : St) (hcb : (handleChannel c s).1 ≠ []) :
    (establish c s).1 = true ∧ (establish c s).2.state = .established ∧ (establish c s).2.connected = true :=
  Decidable.by_contra fun hne => hcb (failed_handshake_released c s hne).2

/-- Non-vacuity: a rejected guest (unknown role) ends failed: released, no callbacks. -/
def demoCfg : Cfg :=
  { sid := cs!"S", node := ⟨cs!"postmaster", cs!"d", cs!"s"⟩, compOpts := [cs!"none"], encOpts := [cs!"none"], schemeOpts := [cs!"guest"], supComp := [cs!"none"], supEnc := [cs!"none", cs!"tls"] }

example :
    let s : St := { recvs := [.ses { state := .new }, .ses { id := cs!"S", from_ := ⟨cs!"u", cs!"d", cs!"i"⟩, state := .authenticating, scheme := cs!"guest", auth := some .guest }], auths := [.unknown], regs := [], sendOk := [] }
    (handleChannel demoCfg s).1 = [] ∧ (handleChannel demoCfg s).2.held = false ∧
      (handleChannel demoCfg s).2.state = .failed := by decide

/-- Non-vacuity: a peer that sends a message instead of a session: error return, released. -/
example :
    let s : St := { recvs := [.other], auths := [], regs := [], sendOk := [] }
    (establish demoCfg s).1 = false ∧ (handleChannel demoCfg s).2.held = false := by decide

end Props.C14
